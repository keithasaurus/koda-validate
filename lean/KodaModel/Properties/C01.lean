/-
  C01 — validation never raises.

  `Clean ev`: whatever the evaluator returns, it is Valid or Invalid (for a leaf, whose result needs no
  fuel, `*_clean` says `(step … x).1 ≠ .raised e`).  `C01_never_raises_partial` lifts the steps'
  `*_clean` to whole trees for the validator kinds in `Safe`, whose side conditions are semantic ("the
  predicates of this node do not raise on what its gate lets through") and are discharged below for the
  typed use of the built-in predicates.

  `_partial`: the side conditions of maps and records are stated on their container level (`mapPre`,
  `recPre` do not raise) rather than discharged from the configuration; *termination* (that a result
  is produced at all) is the subject of `Properties/C01Term`.  The code itself violates the
  unrestricted statement (findings D2, D3: Decimal NaN / naive-vs-aware datetimes under Min / Max).
-/
import KodaModel.Properties.C02
import KodaModel.Properties.C03
import KodaModel.Properties.C05
import KodaModel.Lemmas.Raises

namespace Koda

def Clean (ev : Ev1) : Prop := ∀ x r t, ev x = some (r, t) → ∀ e, r ≠ .raised e

theorem gate_noexn (o : Oracle) (tg dest : Ty) (c : Option CoerceK) (x : PyVal) (e : Exn) (t : List Ev) :
    gate o tg dest c x ≠ .exn e t :=
  (gate_wf o tg dest c x).ne_exn e t

theorem Clean.of_raised {ev : Ev1} (h : ∀ x e t, ev x = some (.raised e, t) → False) : Clean ev :=
  fun x _ t hr e he => h x e t (he ▸ hr)

theorem Clean.not_raised {ev : Ev1} (h : Clean ev) {x : PyVal} {e : Exn} {t : List Ev} :
    ev x ≠ some (.raised e, t) := fun hx => h x _ t hx e rfl

theorem unionStep_clean (vid : Nat) (evs : List Ev1) (h : ∀ ev ∈ evs, Clean ev) : Clean (unionStep vid evs) :=
  .of_raised fun _ _ _ hr => by
    obtain ⟨ev, hev, t', hx⟩ := unionStep_raised hr
    exact (h ev hev).not_raised hx

theorem maybeStep_clean (vid : Nat) (ev : Ev1) (h : Clean ev) : Clean (maybeStep vid ev) :=
  .of_raised fun _ _ _ hr => by
    obtain ⟨v, hx⟩ := maybeStep_raised hr
    exact h.not_raised hx

theorem knrStep_clean (ev : Ev1) (h : Clean ev) : Clean (knrStep ev) :=
  .of_raised fun _ _ _ hr => h.not_raised (knrStep_raised hr)

theorem userStep_clean (vid : Nat) (m : Mode) (ev : Ev1) (h : Clean ev) : Clean (userStep vid m ev) :=
  .of_raised fun _ _ _ hr => by
    obtain ⟨t', hx⟩ := userStep_raised hr
    exact h.not_raised hx

theorem seqStep_clean (k : SeqKind) (hk : k ≠ .set) (o : Oracle) (m : Mode) (vid : Nat) (ps aps : List Pred)
    (c : Option CoerceK) {ev : Ev1} (h : Clean ev)
    (hp : ∀ x r, seqPre k o m vid ps aps c x = .inl r → ∀ e, r.1 ≠ .raised e) :
    Clean (seqStep k o m vid ps aps c ev) :=
  .of_raised fun x e _ hr => by
    rcases seqStep_raised hr with h1 | ⟨y, t', h2⟩ | ⟨_, h3, _⟩
    · exact hp x _ h1 e rfl
    · exact h.not_raised h2
    · exact hk h3

/-- sets: additionally the element payloads must be hashable (else `set.add` raises TypeError) -/
theorem seqStep_clean_set (o : Oracle) (m : Mode) (vid : Nat) (ps aps : List Pred)
    (c : Option CoerceK) {ev : Ev1} (h : Clean ev) (hh : HashablePayloads ev)
    (hp : ∀ x r, seqPre .set o m vid ps aps c x = .inl r → ∀ e, r.1 ≠ .raised e) :
    Clean (seqStep .set o m vid ps aps c ev) :=
  .of_raised fun x e _ hr => by
    rcases seqStep_raised hr with h1 | ⟨y, t', h2⟩ | ⟨_, _, y, w, t', h3, h4⟩
    · exact hp x _ h1 e rfl
    · exact h.not_raised h2
    · rw [hh y w t' h3] at h4; cases h4

theorem seqPre_clean (k : SeqKind) (o : Oracle) (m : Mode) (vid : Nat) (ps aps : List Pred) (c : Option CoerceK)
    (hsync : m = .sync → aps = [])
    (hgate : ∀ x y t, gate o k.gateTy k.destTy c x = .acc y t →
      (contPreds m ps aps y).2.2 = none ∧ (pyIter y).isSome = true) :
    ∀ x r, seqPre k o m vid ps aps c x = .inl r → ∀ e, r.1 ≠ .raised e := by
  rintro x ⟨out, t⟩ hr e rfl
  rcases (seqPre_eq_iff.1 hr).raised with ⟨_, h1, h2⟩ | ⟨y, t0, hg, h1 | ⟨_, h1⟩⟩
  · exact h2 (hsync h1)
  · rw [(hgate x y t0 hg).1] at h1; cases h1
  · have := (hgate x y t0 hg).2; rw [h1] at this; cases this

theorem ntupleStep_clean (o : Oracle) (vid : Nat) (oc : Option ObjCheck) (c : Option CoerceK) (lp : Nat)
    (evs : List Ev1) (hc : ∀ ev ∈ evs, Clean ev)
    (hgate : ∀ x y t, gate o .tuple .list c x = .acc y t → (pyLen y).isSome = true ∧ (pyIter y).isSome = true) :
    Clean (ntupleStep o vid oc c lp evs) :=
  .of_raised fun x e _ hr => by
    rcases ntupleStep_raised hr with h1 | ⟨ev, hev, y, t', h2⟩
    · obtain ⟨_, y, hg, h | h⟩ := (ntuplePre_eq_iff.1 h1).raised
      · have := (hgate x y _ hg).1; rw [h] at this; cases this
      · have := (hgate x y _ hg).2; rw [h] at this; cases this
    · exact (hc ev hev).not_raised h2

theorem mapStep_clean (o : Oracle) (m : Mode) (vid : Nat) (ps aps : List Pred) (c : Option CoerceK)
    (evk evv : Ev1) (hk : Clean evk) (hv : Clean evv)
    (hh : ∀ x w t, evk x = some (.valid w, t) → hashable w = true)
    (hp : ∀ x r, mapPre o m vid ps aps c x = .inl r → ∀ e, r.1 ≠ .raised e) :
    Clean (mapStep o m vid ps aps c evk evv) :=
  .of_raised fun x e _ hr => by
    rcases mapStep_raised hr with h1 | ⟨y, t', h2 | h2⟩ | ⟨_, y, w, t', h3, h4⟩
    · exact hp x _ h1 e rfl
    · exact hk.not_raised h2
    · exact hv.not_raised h2
    · rw [hh y w t' h3] at h4; cases h4

theorem recordStep_clean (o : Oracle) (m : Mode) (vid : Nat) (cfg : RecCfg) (evs : List Ev1)
    (hc : ∀ ev ∈ evs, Clean ev)
    (hp : ∀ x r, recPre o m vid cfg x = .inl r → ∀ e, r.1 ≠ .raised e) :
    Clean (recordStep o m vid cfg evs) :=
  .of_raised fun x e _ hr => by
    rcases recordStep_raised hr with h1 | ⟨ev, hev, y, t', h2⟩
    · exact hp x _ h1 e rfl
    · exact (hc ev hev).not_raised h2

theorem scalarStep_clean (o : Oracle) (m : Mode) (vid : Nat) (tg : Ty) (c : Option CoerceK) (pre : List Proc)
    (ps aps : List Pred) (hsync : m = .sync → aps = [])
    (hgate : ∀ x y t, gate o tg tg c x = .acc y t →
      ∃ z t2, runProcs pre y = (.ok z, t2) ∧ (contPreds m ps aps z).2.2 = none) :
    ∀ x e, (scalarStep o m vid tg c pre ps aps x).1 ≠ .raised e := by
  intro x e hr
  rcases scalarStep_raised hr with ⟨_, h1, h2⟩ | ⟨y, t, hg, h⟩
  · exact h2 (hsync h1)
  · obtain ⟨z, t2, hp, hc⟩ := hgate x y t hg
    rw [hp] at h
    rcases h with h | ⟨z', h1, h2⟩
    · cases h
    · cases h1; rw [hc] at h2; cases h2

/-- validator trees whose nodes cannot raise (side conditions are about the node's own gate and
    predicates; children are `Safe` recursively; a `Lazy` is judged through the environment) -/
inductive Safe (o : Oracle) (m : Mode) : V → Prop
  | scalar (vid tg c pre ps aps) : (m = .sync → aps = []) →
      (∀ x y t, gate o tg tg c x = .acc y t → ∃ z t2, runProcs pre y = (.ok z, t2) ∧ (contPreds m ps aps z).2.2 = none) →
      Safe o m (.scalar vid tg c pre ps aps)
  | equals (vid mt pre pid) : (∀ x e, (equalsStep vid mt pre pid x).1 ≠ .raised e) → Safe o m (.equals vid mt pre pid)
  | noneV (vid c) : Safe o m (.noneV vid c)
  | always (vid) : Safe o m (.always vid)
  | isDict (vid) : Safe o m (.isDict vid)
  | list (vid item ps aps c) : (m = .sync → aps = []) →
      (∀ x y t, gate o .list .list c x = .acc y t → (contPreds m ps aps y).2.2 = none ∧ (pyIter y).isSome = true) →
      Safe o m item → Safe o m (.list vid item ps aps c)
  | utuple (vid item ps aps c) : (m = .sync → aps = []) →
      (∀ x y t, gate o .tuple .list c x = .acc y t → (contPreds m ps aps y).2.2 = none ∧ (pyIter y).isSome = true) →
      Safe o m item → Safe o m (.utuple vid item ps aps c)
  | set (vid item ps aps c) : (m = .sync → aps = []) →
      (∀ x y t, gate o .set .set c x = .acc y t → (contPreds m ps aps y).2.2 = none ∧ (pyIter y).isSome = true) →
      (∀ n env x w t, run o env m n item x = some (.valid w, t) → hashable w = true) →
      Safe o m item → Safe o m (.set vid item ps aps c)
  | ntuple (vid fs oc c lp) :
      (∀ x y t, gate o .tuple .list c x = .acc y t → (pyLen y).isSome = true ∧ (pyIter y).isSome = true) →
      (∀ v ∈ fs, Safe o m v) → Safe o m (.ntuple vid fs oc c lp)
  | map (vid kv vv ps aps c) :
      (∀ x r, mapPre o m vid ps aps c x = .inl r → ∀ e, r.1 ≠ .raised e) →
      (∀ n env x w t, run o env m n kv x = some (.valid w, t) → hashable w = true) →
      Safe o m kv → Safe o m vv → Safe o m (.map vid kv vv ps aps c)
  | record (vid cfg vs) :
      (∀ x r, recPre o m vid cfg x = .inl r → ∀ e, r.1 ≠ .raised e) →
      (∀ v ∈ vs, Safe o m v) → Safe o m (.record vid cfg vs)
  | union (vid vs) : (∀ v ∈ vs, Safe o m v) → Safe o m (.union vid vs)
  | optional (vid nv inner) : Safe o m nv → Safe o m inner → Safe o m (.optional vid nv inner)
  | maybe (vid inner) : Safe o m inner → Safe o m (.maybe vid inner)
  | lazy (vid ref) : Safe o m (.lazy vid ref)
  | knr (vid inner) : Safe o m inner → Safe o m (.knr vid inner)
  | user (vid inner) : Safe o m inner → Safe o m (.user vid inner)

/-- **C01 (never raises), partial**: every run — any fuel, any depth of nesting, any recursion through
    `Lazy` — of a `Safe` tree in a `Safe` environment ends in Valid or Invalid -/
theorem C01_never_raises_partial (o : Oracle) (m : Mode) (env : Nat → V) (henv : ∀ ref, Safe o m (env ref)) :
    ∀ n v, Safe o m v → Clean (run o env m n v) := by
  intro n
  induction n with
  | zero => intro v _ x r t h; cases h
  | succ n ih =>
    intro v hs
    have ihL : ∀ vs : List V, (∀ v ∈ vs, Safe o m v) → ∀ ev ∈ vs.map (run o env m n), Clean ev := by
      intro vs h ev hev
      obtain ⟨v, hv, rfl⟩ := List.mem_map.1 hev
      exact ih v (h v hv)
    have leaf : ∀ {p : Out × List Ev}, (∀ e, p.1 ≠ .raised e) → Clean fun _ => some p :=
      fun h _ _ _ hr => by cases hr; exact h
    cases hs with
    | scalar vid tg c pre ps aps h1 h2 => exact fun x => leaf (scalarStep_clean o m vid tg c pre ps aps h1 h2 x) x
    | equals vid mt pre pid h1 => exact fun x => leaf (h1 x) x
    | noneV vid c => exact fun x => leaf (noneStep_clean o vid c x) x
    | always vid => exact fun x => leaf (p := (.valid x, [])) nofun x
    | isDict vid => exact fun x => leaf (isDictStep_clean vid x) x
    | list vid item ps aps c h1 h2 h3 =>
      exact seqStep_clean .list nofun o m vid ps aps c (ih item h3) (seqPre_clean .list o m vid ps aps c h1 h2)
    | utuple vid item ps aps c h1 h2 h3 =>
      exact seqStep_clean .utuple nofun o m vid ps aps c (ih item h3) (seqPre_clean .utuple o m vid ps aps c h1 h2)
    | set vid item ps aps c h1 h2 h3 h4 =>
      exact seqStep_clean_set o m vid ps aps c (ih item h4) (h3 n env) (seqPre_clean .set o m vid ps aps c h1 h2)
    | ntuple vid fs oc c lp h1 h2 => exact ntupleStep_clean o vid oc c lp _ (ihL fs h2) h1
    | map vid kv vv ps aps c h1 h2 h3 h4 =>
      exact mapStep_clean o m vid ps aps c _ _ (ih kv h3) (ih vv h4) (h2 n env) h1
    | record vid cfg vs h1 h2 => exact recordStep_clean o m vid cfg _ (ihL vs h2) h1
    | union vid vs h1 => exact unionStep_clean _ _ (ihL vs h1)
    | optional vid nv inner h1 h2 =>
      exact unionStep_clean _ _ (ihL [nv, inner] (by
        intro v hv
        rcases List.mem_cons.1 hv with rfl | hv
        · exact h1
        · exact List.mem_singleton.1 hv ▸ h2))
    | maybe vid inner h1 => exact maybeStep_clean vid _ (ih inner h1)
    | lazy vid ref => exact ih (env ref) (henv ref)
    | knr vid inner h1 => exact knrStep_clean _ (ih inner h1)
    | user vid inner h1 => exact userStep_clean vid m _ (ih inner h1)

/-! ### the side conditions hold for the typed use of the built-in predicates -/

/-- item-count predicates never raise on a list.  (`UniqueItems` is not in this fragment: with a signalling Decimal NaN
    inside the items its comparisons raise `InvalidOperation` - finding D30.) -/
theorem listPreds_noRaise (ps : List Pred) (oid : Nat) (xs : List PyVal)
    (h : ∀ p ∈ ps, (∃ n, p.k = .minItems n) ∨ (∃ n, p.k = .maxItems n) ∨ (∃ n, p.k = .exactItemCount n) ∨
      ∃ f, p.k = .user f) : NoRaise ps (.list oid xs) := by
  intro p hp
  rcases h p hp with ⟨n, hn⟩ | ⟨n, hn⟩ | ⟨n, hn⟩ | ⟨f, hn⟩ <;> rw [hn] <;> exact ⟨_, rfl⟩

theorem Safe_list_typed (o : Oracle) (m : Mode) (vid : Nat) (item : V) (ps : List Pred)
    (h : ∀ p ∈ ps, (∃ n, p.k = .minItems n) ∨ (∃ n, p.k = .maxItems n) ∨ (∃ n, p.k = .exactItemCount n) ∨
      ∃ f, p.k = .user f) (hi : Safe o m item) : Safe o m (.list vid item ps [] none) := by
  refine Safe.list vid item ps [] none (fun _ => rfl) ?_ hi
  intro x y t hg
  simp only [gate] at hg
  split at hg
  · rename_i hty
    cases hg
    obtain ⟨oid, xs, rfl⟩ : ∃ oid xs, x = .list oid xs := by
      cases x <;> simp [PyVal.ty] at hty
      exact ⟨_, _, rfl⟩
    refine ⟨?_, rfl⟩
    have := contPreds_spec m ps [] (.list oid xs) (listPreds_noRaise ps oid xs h) (by intro p hp; simp at hp)
    exact this.2
  · cases hg

theorem strPreds_noRaise (ps : List Pred) (s : List Nat)
    (h : ∀ p ∈ ps, (∃ n, p.k = .minLength n) ∨ (∃ n, p.k = .maxLength n) ∨ (∃ n, p.k = .exactLength n) ∨
      (∃ q, p.k = .startsWith (.str q)) ∨ (∃ q, p.k = .endsWith (.str q)) ∨ p.k = .notBlank ∨
      (∃ r, p.k = .regex r) ∨ p.k = .email ∨ (∃ q, p.k = .equalTo (.str q)) ∨ (∃ vs, p.k = .choices vs) ∨
      ∃ f, p.k = .user f) : NoRaise ps (.str s) := by
  intro p hp
  rcases h p hp with ⟨n, hn⟩ | ⟨n, hn⟩ | ⟨n, hn⟩ | ⟨q, hn⟩ | ⟨q, hn⟩ | hn | ⟨r, hn⟩ | hn | ⟨q, hn⟩ | ⟨vs, hn⟩ | ⟨f, hn⟩ <;>
    rw [hn] <;> first | exact ⟨_, rfl⟩ | (simp [PredK.call, pyEqX, isSNaN, PyVal.unsub, hashable])

theorem Safe_str_typed (o : Oracle) (m : Mode) (vid : Nat) (ps : List Pred)
    (h : ∀ p ∈ ps, (∃ n, p.k = .minLength n) ∨ (∃ n, p.k = .maxLength n) ∨ (∃ n, p.k = .exactLength n) ∨
      (∃ q, p.k = .startsWith (.str q)) ∨ (∃ q, p.k = .endsWith (.str q)) ∨ p.k = .notBlank ∨
      (∃ r, p.k = .regex r) ∨ p.k = .email ∨ (∃ q, p.k = .equalTo (.str q)) ∨ (∃ vs, p.k = .choices vs) ∨
      ∃ f, p.k = .user f) : Safe o m (.scalar vid .str none [] ps []) := by
  refine Safe.scalar vid .str none [] ps [] (fun _ => rfl) ?_
  intro x y t hg
  simp only [gate] at hg
  split at hg
  · rename_i hty
    cases hg
    obtain ⟨s, rfl⟩ : ∃ s, x = .str s := by
      cases x <;> simp [PyVal.ty] at hty
      exact ⟨_, rfl⟩
    refine ⟨.str s, [], rfl, ?_⟩
    exact (contPreds_spec m ps [] (.str s) (strPreds_noRaise ps s h) (by intro p hp; simp at hp)).2
  · cases hg

/-! ### non-vacuity: a recursive definition, `T = Union[str-with-predicates, List[T]]` -/
example (o : Oracle) (m : Mode) :
    Safe o m (.union 1 [.scalar 2 .str none [] [⟨1, .minLength 1⟩, ⟨2, .notBlank⟩] [], .list 3 (.lazy 4 0) [⟨3, .maxItems 2⟩] [] none]) := by
  apply Safe.union
  intro v hv
  simp only [List.mem_cons, List.mem_nil_iff, or_false] at hv
  rcases hv with rfl | rfl
  · apply Safe_str_typed
    intro p hp
    simp only [List.mem_cons, List.mem_nil_iff, or_false] at hp
    rcases hp with rfl | rfl
    · exact Or.inl ⟨1, rfl⟩
    · exact Or.inr (Or.inr (Or.inr (Or.inr (Or.inr (Or.inl rfl)))))
  · apply Safe_list_typed
    · intro p hp
      simp only [List.mem_cons, List.mem_nil_iff, or_false] at hp
      subst hp
      exact Or.inr (Or.inl ⟨2, rfl⟩)
    · exact Safe.lazy 4 0

end Koda
