/-
  C05 — the union loop *as written in /repo's current source*.

  `Generated/UnionSrc.lean` is rewritten on every run from the AST of `_union_validator` and
  `_union_validator_async` (koda_validate/_internal.py), the loop both `UnionValidator` and
  `OptionalValidator` delegate to (`src_union_uses` pins those one-line delegations).  Interpreting the
  translated bodies (`KodaModel/PyUnion.lean`) is the model's `unionStep`: for every list of variants, of either
  flavour, and every input — the first accepting variant's payload, later variants not consulted; every
  variant's error in order otherwise; a raising or non-returning variant ends the call.
-/
import KodaModel.Generated.UnionSrc

namespace Koda

/-- the body of `for validator in validators:`; `eT` / `eC` call a variant by the tuple protocol / as a plain `Validator` -/
def uBody (eT eC : UExp) : List UStmt :=
  [.ite (.isToTuple (.var .validator))
     [.assign .resultTup eT,
      .ite (.subscript (.var .resultTup) 0)
        [.ret (.pair (.bool true) (.subscript (.var .resultTup) 1))]
        [.append .errs (.subscript (.var .resultTup) 1)]]
     [.assign .result eC,
      .ite (.attr (.var .result) .isValid)
        [.ret (.pair (.bool true) (.attr (.var .result) .valA))]
        [.append .errs (.var .result)]]]

def uRet : UStmt := .ret (.pair (.bool false) (.mkUnionInvalid (.var .errs) (.param .val) (.param .sourceValidator)))

theorem unionSync_eq : Src.unionSync =
    [.assign .errs .emptyList,
     .forIn .validator (.param .validators)
       (uBody (.meth (.var .validator) .validateToTuple (.param .val)) (.meth (.var .validator) .call (.param .val))),
     uRet] := rfl

theorem unionAsync_eq : Src.unionAsync =
    [.assign .errs .emptyList,
     .forIn .validator (.param .validators)
       (uBody (.await (.meth (.var .validator) .validateToTupleAsync (.param .val)))
         (.await (.meth (.var .validator) .validateAsync (.param .val)))),
     uRet] := rfl

theorem uBody_exec (cx : UCtx) (eT eC : UExp) (st : USt) (c : UChild) (es0 : List Inv)
    (hcall : (cond c.toTuple eT eC).eval cx st = callChild c cx.x st c.toTuple)
    (hv : st.env.validator = .child c) (he : st.env.errs = .invs es0) :
    (c.ev cx.x = none → ∃ t, UStmt.execL cx st (uBody eT eC) = .error (.diverge, t)) ∧
    (∀ e t, c.ev cx.x = some (.raised e, t) → UStmt.execL cx st (uBody eT eC) = .error (.exn e, st.tr ++ t)) ∧
    (∀ w t, c.ev cx.x = some (.valid w, t) →
      ∃ st1, UStmt.execL cx st (uBody eT eC) = .ok (.returned (.pair (.bool true) (.py w)) st1) ∧ st1.tr = st.tr ++ t) ∧
    (∀ e t, c.ev cx.x = some (.invalid e, t) →
      ∃ st1, UStmt.execL cx st (uBody eT eC) = .ok (.next st1) ∧ st1.env.errs = .invs (es0 ++ [e]) ∧ st1.tr = st.tr ++ t) := by
  obtain ⟨⟨errs, vd, rt, r⟩, tr⟩ := st
  obtain ⟨ev, ttup⟩ := c
  dsimp only at hv he hcall ⊢
  subst hv he
  cases ttup
  all_goals
    dsimp only [cond] at hcall
    dsimp only [uBody, UStmt.execL, UStmt.exec, UExp.eval, UEnv.get, utruthy]
    rw [hcall]
    dsimp only [callChild]
    refine ⟨fun h => ⟨tr, ?_⟩, fun e t h => ?_, fun w t h => ?_, fun e t h => ?_⟩ <;> rw [h]
    · exact ⟨_, rfl, rfl⟩
    · exact ⟨_, rfl, rfl, rfl⟩

def UnionLoopSpec (r : Except (UErr × List Ev) UFlow) (st : USt) (es0 : List Inv) :
    Option (Option PyVal × List Inv × List Ev × Option Exn) → Prop
  | none => ∃ t, r = .error (.diverge, t)
  | some (_, _, t, some e) => r = .error (.exn e, st.tr ++ t)
  | some (some w, _, t, none) => ∃ st1, r = .ok (.returned (.pair (.bool true) (.py w)) st1) ∧ st1.tr = st.tr ++ t
  | some (none, es, t, none) => ∃ st1, r = .ok (.next st1) ∧ st1.env.errs = .invs (es0 ++ es) ∧ st1.tr = st.tr ++ t

theorem uforFold_union (cx : UCtx) (execBody : USt → Except (UErr × List Ev) UFlow)
    (Hb : ∀ (st : USt) (c : UChild) (es0 : List Inv), st.env.validator = .child c → st.env.errs = .invs es0 →
      (c.ev cx.x = none → ∃ t, execBody st = .error (.diverge, t)) ∧
      (∀ e t, c.ev cx.x = some (.raised e, t) → execBody st = .error (.exn e, st.tr ++ t)) ∧
      (∀ w t, c.ev cx.x = some (.valid w, t) →
        ∃ st1, execBody st = .ok (.returned (.pair (.bool true) (.py w)) st1) ∧ st1.tr = st.tr ++ t) ∧
      (∀ e t, c.ev cx.x = some (.invalid e, t) →
        ∃ st1, execBody st = .ok (.next st1) ∧ st1.env.errs = .invs (es0 ++ [e]) ∧ st1.tr = st.tr ++ t)) :
    ∀ (cs : List UChild) (st : USt) (es0 : List Inv), st.env.errs = .invs es0 →
      (unionLoop cx.x (cs.map (·.ev)) = none →
        ∃ t, uforFold execBody .validator (cs.map UV.child) st = .error (.diverge, t)) ∧
      (∀ w es t e, unionLoop cx.x (cs.map (·.ev)) = some (w, es, t, some e) →
        uforFold execBody .validator (cs.map UV.child) st = .error (.exn e, st.tr ++ t)) ∧
      (∀ w es t, unionLoop cx.x (cs.map (·.ev)) = some (some w, es, t, none) →
        ∃ st1, uforFold execBody .validator (cs.map UV.child) st = .ok (.returned (.pair (.bool true) (.py w)) st1) ∧
          st1.tr = st.tr ++ t) ∧
      (∀ es t, unionLoop cx.x (cs.map (·.ev)) = some (none, es, t, none) →
        ∃ st1, uforFold execBody .validator (cs.map UV.child) st = .ok (.next st1) ∧
          st1.env.errs = .invs (es0 ++ es) ∧ st1.tr = st.tr ++ t) := by
  have spec : ∀ (cs : List UChild) (st : USt) (es0 : List Inv), st.env.errs = .invs es0 →
      UnionLoopSpec (uforFold execBody .validator (cs.map UV.child) st) st es0 (unionLoop cx.x (cs.map (·.ev))) := by
    intro cs
    induction cs with
    | nil => intro st es0 he; exact ⟨st, rfl, by rw [he, List.append_nil], (List.append_nil _).symm⟩
    | cons c cs ih =>
      intro st es0 he
      obtain ⟨b1, b2, b3, b4⟩ :=
        Hb { st with env := st.env.set .validator (.child c) } c es0 rfl (by simpa [UEnv.set] using he)
      simp only [List.map_cons, unionLoop, uforFold]
      cases hc : c.ev cx.x with
      | none => obtain ⟨t0, h0⟩ := b1 hc; exact ⟨t0, by rw [h0]⟩
      | some p =>
        obtain ⟨out, t0⟩ := p
        cases out with
        | raised e0 => show _ = _; rw [b2 e0 t0 hc]
        | valid w0 => obtain ⟨st1, h0, h1⟩ := b3 w0 t0 hc; exact ⟨st1, by rw [h0], h1⟩
        | invalid e0 =>
          obtain ⟨st1, h0, h1, h2⟩ := b4 e0 t0 hc
          have i := ih st1 (es0 ++ [e0]) h1
          rw [h0]
          -- the rest of the loop runs from `st1`: its trace and errors are re-read from `st`
          generalize unionLoop cx.x (cs.map (·.ev)) = r at i ⊢
          rcases r with _ | ⟨w, es, t, _ | e⟩
          · exact i
          · cases w with
            | none =>
              obtain ⟨st2, j1, j2, j3⟩ := i
              exact ⟨st2, j1, by rw [j2, List.append_assoc]; rfl, by rw [j3, h2, List.append_assoc]⟩
            | some w =>
              obtain ⟨st2, j1, j2⟩ := i
              exact ⟨st2, j1, by rw [j2, h2, List.append_assoc]⟩
          · exact (show _ = _ from i).trans (by rw [h2, List.append_assoc])
  intro cs st es0 he
  have s := spec cs st es0 he
  refine ⟨fun h => ?_, fun w es t e h => ?_, fun w es t h => ?_, fun es t h => ?_⟩ <;> rw [h] at s <;> exact s

theorem union_run (vid : Nat) (cs : List UChild) (x : PyVal) (eT eC : UExp)
    (hcall : ∀ (st : USt) (c : UChild), st.env.validator = .child c →
      (cond c.toTuple eT eC).eval ⟨vid, cs, x⟩ st = callChild c x st c.toTuple) :
    runUnionBody ⟨vid, cs, x⟩ [.assign .errs .emptyList, .forIn .validator (.param .validators) (uBody eT eC), uRet] =
      unionStep vid (cs.map (·.ev)) x := by
  let cx : UCtx := ⟨vid, cs, x⟩
  obtain ⟨l1, l2, l3, l4⟩ := uforFold_union cx (fun st => UStmt.execL cx st (uBody eT eC))
    (fun st c es0 hv he => uBody_exec cx eT eC st c es0 (hcall st c hv) hv he) cs
    { env := ({} : UEnv).set .errs (.invs []), tr := [] } [] rfl
  have hexec : UStmt.execL cx { env := {}, tr := [] }
      [.assign .errs .emptyList, .forIn .validator (.param .validators) (uBody eT eC), uRet] =
      (match uforFold (fun st => UStmt.execL cx st (uBody eT eC)) .validator (cs.map UV.child)
          { env := ({} : UEnv).set .errs (.invs []), tr := [] } with
       | .error err => .error err
       | .ok (.next st) => UStmt.execL cx st [uRet]
       | .ok (.returned d st) => .ok (.returned d st)) := rfl
  unfold runUnionBody unionStep
  rw [hexec]
  cases hl : unionLoop x (cs.map (·.ev)) with
  | none =>
    obtain ⟨t, ht⟩ := l1 hl
    rw [ht]
  | some q =>
    obtain ⟨w, es, t, r⟩ := q
    cases r with
    | some e => rw [l2 w es t e hl]; rfl
    | none =>
      cases w with
      | some w0 =>
        obtain ⟨st1, h1, h2⟩ := l3 w0 es t hl
        rw [h1]
        exact congrArg (fun t => some (Out.valid w0, t)) h2
      | none =>
        obtain ⟨⟨env, tr⟩, h1, h2, h3⟩ := l4 es t hl
        obtain ⟨errs, vd, rt, r⟩ := env
        dsimp only at h2 h3
        subst h2 h3
        rw [h1]
        rfl

/-- **the synchronous union loop, as written in the source, is the model's `unionStep`** -/
theorem src_union_sync (vid : Nat) (cs : List UChild) (x : PyVal) :
    runUnionBody ⟨vid, cs, x⟩ Src.unionSync = unionStep vid (cs.map (·.ev)) x := by
  rw [unionSync_eq]
  refine union_run vid cs x _ _ fun st c hv => ?_
  cases htt : c.toTuple <;> simp only [cond, UExp.eval, UEnv.get, hv, htt, if_true]

/-- **the asynchronous union loop, as written in the source, is the model's `unionStep`** -/
theorem src_union_async (vid : Nat) (cs : List UChild) (x : PyVal) :
    runUnionBody ⟨vid, cs, x⟩ Src.unionAsync = unionStep vid (cs.map (·.ev)) x := by
  rw [unionAsync_eq]
  refine union_run vid cs x _ _ fun st c hv => ?_
  cases htt : c.toTuple <;> simp only [cond, UExp.eval, UEnv.get, hv, htt, if_true]

/-- `UnionValidator` and `OptionalValidator` do nothing but delegate to the loop -/
theorem src_union_uses : Src.unionUses =
    ["OptionalValidator._validate_to_tuple: return _union_validator(self, self.validators, val)",
     "OptionalValidator._validate_to_tuple_async: return await _union_validator_async(self, self.validators, val)",
     "UnionValidator._validate_to_tuple: return _union_validator(self, self.validators, val)",
     "UnionValidator._validate_to_tuple_async: return await _union_validator_async(self, self.validators, val)"] := rfl

end Koda
