/-
  C11 for the container validators: each theorem takes what the children's schemas decide and concludes
  what the container's schema decides.
-/
import KodaModel.Properties.C11

namespace Koda

theorem typeFails_jset_ne (o : JObj) (k : List Nat) (v : J) (x : PyVal) (h : k ≠ kw "type") :
    typeFails (jset o k v) x = typeFails o x := by
  simp only [typeFails, jGet_jset_ne o k v "type" h]

theorem objEval_jset_nullable (root : J) (ref : Option (List Nat)) (n : Nat) (o : JObj) (x : PyVal) (b : Bool)
    (h : objEval root ref n o o x = some b) :
    objEval root ref n (jset o (kw "nullable") (.bool true)) (jset o (kw "nullable") (.bool true)) x = some b := by
  rw [objEval, allM_congr _ _ _ fun e _ => evalKw_congr _ root ref _ o
    (jGet_jset_ne o _ _ "properties" (kw_ne (by simp only [ne_eq, String.reduceEq, not_false_eq_true])))
    (jGet_jset_ne o _ _ "prefixItems" (kw_ne (by simp only [ne_eq, String.reduceEq, not_false_eq_true]))) e.1 e.2 x]
  rw [objEval] at h
  cases hf : o.find? (fun q => q.1 == kw "nullable") with
  | none =>
    rw [jset_absent o _ _ ((find_none_hasKey o _).1 hf), allM_append, h, objEval_one _ _ _ _ _ _ _ _ (evalKw_nullable ..),
      OB_and_some, Bool.and_true]
  | some e =>
    -- the old `nullable` entry evaluated to `true`, as the new one does
    have hk : e.1 = kw "nullable" := by simpa using List.find?_some hf
    rw [← Bool.and_true b]
    refine allM_jset_replace _ _ _ true o e b hf (fun b0 hb0 => ?_) h
    rw [hk] at hb0 ⊢
    rw [evalKw_nullable, evalKw_nullable_some _ _ _ _ _ _ _ hb0]
    rfl

/-- **Optional (schema side)**: `{…inner…, "nullable": true}` accepts `null` and otherwise what the inner
    schema accepts -/
theorem C11_optional_schema (root : J) (ref : Option (List Nat)) (o : JObj) (N : Nat) (x : PyVal) (b : Bool)
    (hinner : isNoneV x = false → DecidesAt root ref (.obj o) N x b) :
    DecidesAt root ref (.obj (jset o (kw "nullable") (.bool true))) (max N 1) x (isNoneV x || b) := by
  intro n hn
  obtain ⟨m, rfl⟩ : ∃ m, n = m + 1 := ⟨n - 1, by omega⟩
  rw [evalSchema_obj]
  cases hx : isNoneV x
  · have hi := hinner hx (m + 1) (by omega)
    rw [evalSchema_obj, hx, Bool.and_false] at hi
    rw [Bool.and_false, typeFails_jset_ne o _ _ x (kw_ne (by simp only [ne_eq, String.reduceEq, not_false_eq_true]))]
    revert hi
    cases typeFails o x <;> simp only [Bool.false_eq_true, if_false, if_true, Bool.false_or]
    · exact objEval_jset_nullable root ref m o x b
    · exact id
  · simp only [isNullable, jGet_jset_eq, Bool.and_true, if_true, Bool.true_or]

/-- **Union (schema side)**: `oneOf` accepts iff *exactly one* variant's schema accepts -/
theorem C11_union_schema (root : J) (ref : Option (List Nat)) (items : List J) (g : J → Bool) (N : Nat) (x : PyVal)
    (h : ∀ j ∈ items, DecidesAt root ref j N x (g j)) :
    DecidesAt root ref (.obj [(kw "oneOf", .arr items)]) (N + 1) x (items.countP g == 1) := by
  intro n hn
  obtain ⟨m, rfl⟩ : ∃ m, n = m + 1 := ⟨n - 1, by omega⟩
  rw [evalSchema_untyped root ref m _ x (by simp only [jGet_cons, jGet_nil, String.reduceEq, ↓reduceIte])
    (by simp only [jGet_cons, jGet_nil, String.reduceEq, ↓reduceIte])]
  refine objEval_one _ _ _ _ _ _ _ _ ?_
  rw [evalKw_oneOf, countM_eq_some _ g items fun j hj => h j hj m (by omega)]
  rfl

/-- when at most one variant accepts (no overlap), "exactly one" is "some" — which is what the
    validator does (finding D14 is the overlapping case) -/
theorem countP_one_of_atMostOne {α : Type} (g : α → Bool) (l : List α) (h : l.countP g ≤ 1) :
    (l.countP g == 1) = l.any g := by
  rw [Bool.eq_iff_iff, beq_iff_eq, List.any_eq_true, ← List.countP_pos_iff]
  omega

/-- D14 in the model: two overlapping variants -/
example : ([true, true].countP id == 1) = false ∧ [true, true].any id = true := by decide

/-- **List / uniform tuple (schema side)**: `{"type": "array", "items": it, …predicates…}` accepts `x` iff
    `x` is an array, every element satisfies `it`, and every predicate holds -/
theorem C11_list_schema (pr : Printer) (root : J) (ref : Option (List Nat)) (it : J) (ps : List Pred) (o : JObj)
    (hps : predsSchema pr [(kw "type", .str (kw "array")), (kw "items", it)] ps = .ok o) (x : PyVal)
    (a : PyVal → Bool) (N : Nat)
    (hitems : ∀ y ∈ listItems x, DecidesAt root ref it N y (a y))
    (hp : isListV x = true → ∀ p ∈ ps, PredOK pr root ref p.k x) :
    DecidesAt root ref (.obj o) (max N 1 + 1) x
      (isListV x && ((listItems x).all a && ps.all (fun p => holds p.k x))) := by
  refine C11_typed_schema pr root ref _ (kw "array") ps o hps x _ _ (max N 1) (Nat.le_max_right N 1) (typeOk_array x)
    (fun hl n hn o' hg => ?_) hp
  obtain ⟨oid, xs, rfl⟩ := isListV_eq hl
  simp only [objEval, allM, evalKw_type, typeOk_array, evalKw_items, prefixLen_good o' hg, List.drop_zero,
    allM_eq_some_all _ a xs fun y hy => hitems y hy n (Nat.le_trans (Nat.le_max_left N 1) hn), OB_and_some, isListV,
    listItems, Bool.true_and, Bool.and_true]

def ntupleObj (items : List J) : JObj :=
  [(kw "description", .str (kw "a " ++ natText items.length ++ kw "-tuple of the fields in \"prefixItems\"")),
   (kw "type", .str (kw "array")), (kw "additionalItems", .bool false),
   (kw "maxItems", .int items.length), (kw "minItems", .int items.length)] ++
  (if items.isEmpty then [] else [(kw "prefixItems", .arr items)])

/-- **n-tuple (schema side)**: accepts `x` iff it is an array of exactly n elements, the i-th satisfying
    the i-th field's schema -/
theorem C11_ntuple_schema (root : J) (ref : Option (List Nat)) (items : List J) (g : J → PyVal → Bool) (N : Nat) (x : PyVal)
    (h : ∀ p ∈ items.zip (listItems x), DecidesAt root ref p.1 N p.2 (g p.1 p.2)) :
    DecidesAt root ref (.obj (ntupleObj items)) (N + 1) x
      (isListV x && (decide ((listItems x).length = items.length) && (items.zip (listItems x)).all (fun p => g p.1 p.2))) := by
  intro n hn
  obtain ⟨m, rfl⟩ : ∃ m, n = m + 1 := ⟨n - 1, by omega⟩
  refine evalSchema_typed root ref m _ (kw "array") x _ _ ?_ ?_ (typeOk_array x) fun hl => ?_
  · unfold ntupleObj
    split <;> simp only [List.append_nil, List.cons_append, List.nil_append, jGet_cons, jGet_nil, String.reduceEq,
      ↓reduceIte]
  · unfold ntupleObj
    split <;> simp only [List.append_nil, List.cons_append, List.nil_append, jGet_cons, String.reduceEq, ↓reduceIte]
  · obtain ⟨oid, xs, rfl⟩ := isListV_eq hl
    simp only [listItems] at h ⊢
    rw [objEval, ntupleObj, allM_append]
    simp only [allM, evalKw_description, evalKw_type, typeOk_array, evalKw_additionalItems, evalKw_maxItems,
      evalKw_minItems, OB_and_some, isListV, Bool.true_and, Bool.and_true, ge_iff_le, decide_le_and_le,
      Int.natCast_inj]
    split
    · rename_i he
      rw [List.isEmpty_iff.1 he]
      rfl
    · simp only [allM, evalKw_prefixItems]
      rw [allM_eq_some_all _ (fun p => g p.1 p.2) (items.zip xs) fun p hp => h p hp m (by omega), OB_and_some,
        OB_and_some, Bool.and_true]
      congr  -- the two `decide (xs.length = items.length)` differ in their `Decidable` instance only

end Koda
