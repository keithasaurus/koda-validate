/-
  C01, termination.  `run` takes fuel because `Lazy` makes validator definitions cyclic; "the call
  returns" is therefore the statement that *some* amount of fuel suffices.  Two theorems:

  * `C01_terminates_lazyfree`: a tree without `Lazy` nodes returns on **every** value with fuel
    `height + 1` — every validator kind, any coercer, any predicate.
  * `C01_terminates_partial`: recursive definitions.  In an environment whose definitions are
    *guarded* (`gd false`: every `Lazy` occurs below a container position, where the child is applied to
    a component of the value; a container whose coercer is user-written must have `Lazy`-free
    children, because an arbitrary coercer can return something larger than its argument), every
    guarded tree returns on every value.  Well-founded recursion on
    (size of the value, "may a Lazy occur here", height of the tree).
    An unguarded self-reference does not return for any fuel (`unguarded_diverges`, for `env 0 = Lazy 0`); the real
    library then exhausts the interpreter stack — that is the excluded case, and the reason the theorem carries the name `_partial`.

  `C01_total_partial` combines this with `C01_never_raises_partial`: a `Safe`, guarded tree in a `Safe`,
  guarded environment returns Valid or Invalid on every value — and with every larger fuel the same.
-/
import KodaModel.Properties.C01

namespace Koda

theorem dictGet_mem_pair : ∀ (data : List (PyVal × PyVal)) (k v : PyVal), dictGet data k = some v →
    ∃ k', (k', v) ∈ data := by
  intro data
  induction data with
  | nil => intro k v h; cases h
  | cons p data ih =>
    intro k v h
    obtain ⟨k', v'⟩ := p
    simp only [dictGet] at h
    split at h
    · cases h; exact ⟨k', List.mem_cons_self⟩
    · obtain ⟨k'', hk⟩ := ih k v h
      exact ⟨k'', List.mem_cons_of_mem _ hk⟩

theorem seqStep_total {k o m vid ps aps c ev x}
    (h : ∀ y xs t, seqPre k o m vid ps aps c x = .inr (y, xs, t) → ∀ z ∈ xs, ∃ r, ev z = some r) :
    ∃ r, seqStep k o m vid ps aps c ev x = some r := by
  cases hp : seqPre k o m vid ps aps c x with
  | inl r => exact ⟨r, seqStep_some.2 (.inl hp)⟩
  | inr q =>
    obtain ⟨y, xs, t⟩ := q
    obtain ⟨l, hl⟩ := Items.total (hr := k == .set) (h y xs t hp) 0 true
    exact ⟨_, seqStep_some.2 (.inr ⟨y, xs, t, l, hp, hl, rfl⟩)⟩

theorem ntupleStep_total {o vid oc c lp evs x}
    (h : ∀ y xs t, ntuplePre o vid c lp evs.length x = .inr (y, xs, t) →
      ∀ ev ∈ evs, ∀ z ∈ xs, ∃ r, ev z = some r) :
    ∃ r, ntupleStep o vid oc c lp evs x = some r := by
  cases hp : ntuplePre o vid c lp evs.length x with
  | inl r => exact ⟨r, ntupleStep_some.2 (.inl hp)⟩
  | inr q =>
    obtain ⟨y, xs, t⟩ := q
    obtain ⟨l, hl⟩ := Fields.total (h y xs t hp) 0
    exact ⟨_, ntupleStep_some.2 (.inr ⟨y, xs, t, l, hp, hl, rfl⟩)⟩

theorem mapStep_total {o m vid ps aps c evk evv x}
    (h : ∀ y kvs t, mapPre o m vid ps aps c x = .inr (y, kvs, t) →
      ∀ p ∈ kvs, (∃ r, evk p.1 = some r) ∧ (∃ r, evv p.2 = some r)) :
    ∃ r, mapStep o m vid ps aps c evk evv x = some r := by
  cases hp : mapPre o m vid ps aps c x with
  | inl r => exact ⟨r, mapStep_some.2 (.inl hp)⟩
  | inr q =>
    obtain ⟨y, kvs, t⟩ := q
    obtain ⟨l, hl⟩ := MapL.total (h y kvs t hp) []
    exact ⟨_, mapStep_some.2 (.inr ⟨y, kvs, t, l, hp, hl, rfl⟩)⟩

theorem recordStep_total {o m vid cfg evs x}
    (h : ∀ y data t, recPre o m vid cfg x = .inr (y, data, t) →
      ∀ ev ∈ evs, ∀ p ∈ data, ∃ r, ev p.2 = some r) :
    ∃ r, recordStep o m vid cfg evs x = some r := by
  cases hp : recPre o m vid cfg x with
  | inl r => exact ⟨r, recordStep_some.2 (.inl hp)⟩
  | inr q =>
    obtain ⟨y, data, t⟩ := q
    obtain ⟨l, hl⟩ := RecL.total (vid := vid) (dv := y) (fun ev hev k xv hd => by
      obtain ⟨k', hk'⟩ := dictGet_mem_pair data k xv hd
      exact h y data t hp ev hev (k', xv) hk') cfg.keys cfg.reqs
    exact ⟨_, recordStep_some.2 (.inr ⟨y, data, t, l, hp, hl, rfl⟩)⟩

theorem unionStep_total {vid evs x} (h : ∀ ev ∈ evs, ∃ r, ev x = some r) :
    ∃ r, unionStep vid evs x = some r := by
  obtain ⟨q, hq⟩ := UnionL.total h
  exact ⟨_, unionStep_some.2 ⟨q, hq, rfl⟩⟩

/-- the (child validator, value) pairs that `run … (n + 1) v x` may hand to `run … n` -/
def subs (o : Oracle) (env : Nat → V) (m : Mode) (v : V) (x : PyVal) : List (V × PyVal) :=
  match v with
  | .list vid item ps aps c =>
    match seqPre .list o m vid ps aps c x with
    | .inr (_, xs, _) => xs.map (item, ·)
    | .inl _ => []
  | .set vid item ps aps c =>
    match seqPre .set o m vid ps aps c x with
    | .inr (_, xs, _) => xs.map (item, ·)
    | .inl _ => []
  | .utuple vid item ps aps c =>
    match seqPre .utuple o m vid ps aps c x with
    | .inr (_, xs, _) => xs.map (item, ·)
    | .inl _ => []
  | .ntuple vid fs _ c lp =>
    match ntuplePre o vid c lp fs.length x with
    | .inr (_, xs, _) => fs.flatMap fun w => xs.map (w, ·)
    | .inl _ => []
  | .map vid kv vv ps aps c =>
    match mapPre o m vid ps aps c x with
    | .inr (_, kvs, _) => kvs.flatMap fun p => [(kv, p.1), (vv, p.2)]
    | .inl _ => []
  | .record vid cfg vs =>
    match recPre o m vid cfg x with
    | .inr (_, data, _) => vs.flatMap fun w => data.map fun p => (w, p.2)
    | .inl _ => []
  | .union _ vs => vs.map (·, x)
  | .optional _ nv inner => [(nv, x), (inner, x)]
  | .maybe _ inner =>
    match x with
    | .just _ z => [(inner, z)]
    | _ => []
  | .lazy _ ref => [(env ref, x)]
  | .knr _ inner => [(inner, x)]
  | .user _ inner => [(inner, x)]
  | _ => []

theorem run_succ_defined {o env m n v x}
    (h : ∀ p ∈ subs o env m v x, ∃ r, run o env m n p.1 p.2 = some r) : ∃ r, run o env m (n + 1) v x = some r := by
  cases v with
  | scalar | equals | noneV | always | isDict => exact ⟨_, rfl⟩
  | list vid item ps aps c | set vid item ps aps c | utuple vid item ps aps c =>
    refine seqStep_total fun y xs t hp z hz => ?_
    exact h (item, z) (by simp only [subs, hp]; exact List.mem_map.2 ⟨z, hz, rfl⟩)
  | ntuple vid fs oc c lp =>
    refine ntupleStep_total fun y xs t hp ev hev z hz => ?_
    rw [List.length_map] at hp
    obtain ⟨w, hw, rfl⟩ := List.mem_map.1 hev
    exact h (w, z) (by simp only [subs, hp]; exact List.mem_flatMap.2 ⟨w, hw, List.mem_map.2 ⟨z, hz, rfl⟩⟩)
  | map vid kv vv ps aps c =>
    refine mapStep_total fun y kvs t hp p hpm => ?_
    have hm : ∀ q ∈ [(kv, p.1), (vv, p.2)], q ∈ subs o env m (.map vid kv vv ps aps c) x := fun q hq => by
      simp only [subs, hp]; exact List.mem_flatMap.2 ⟨p, hpm, hq⟩
    exact ⟨h _ (hm _ List.mem_cons_self), h _ (hm _ (List.mem_cons_of_mem _ List.mem_cons_self))⟩
  | record vid cfg vs =>
    refine recordStep_total fun y data t hp ev hev p hpm => ?_
    obtain ⟨w, hw, rfl⟩ := List.mem_map.1 hev
    exact h (w, p.2) (by simp only [subs, hp]; exact List.mem_flatMap.2 ⟨w, hw, List.mem_map.2 ⟨p, hpm, rfl⟩⟩)
  | union vid vs =>
    refine unionStep_total fun ev hev => ?_
    obtain ⟨w, hw, rfl⟩ := List.mem_map.1 hev
    exact h (w, x) (List.mem_map.2 ⟨w, hw, rfl⟩)
  | optional vid nv inner =>
    refine unionStep_total fun ev hev => ?_
    rcases List.mem_cons.1 hev with rfl | hev
    · exact h (nv, x) List.mem_cons_self
    · cases List.mem_singleton.1 hev; exact h (inner, x) (List.mem_cons_of_mem _ List.mem_cons_self)
  | maybe vid inner =>
    rcases maybeStep_cases x with ⟨oid, z, rfl⟩ | hx | hx
    · obtain ⟨r, hr⟩ := h (inner, z) List.mem_cons_self
      exact ⟨_, by rw [run, maybeStep_just, hr]; rfl⟩
    · exact ⟨_, hx _ _⟩
    · exact ⟨_, hx _ _⟩
  | «lazy» vid ref => exact h (env ref, x) List.mem_cons_self
  | knr vid inner =>
    obtain ⟨r, hr⟩ := h (inner, x) List.mem_cons_self
    exact ⟨_, by rw [run, knrStep_eq, hr]; rfl⟩
  | user vid inner =>
    obtain ⟨r, hr⟩ := h (inner, x) List.mem_cons_self
    exact ⟨_, by rw [run, userStep_eq, hr]; rfl⟩

mutual
def V.height : V → Nat
  | .list _ item .. => item.height + 1
  | .set _ item .. => item.height + 1
  | .utuple _ item .. => item.height + 1
  | .ntuple _ fs .. => V.heightL fs + 1
  | .map _ kv vv .. => max kv.height vv.height + 1
  | .record _ _ vs => V.heightL vs + 1
  | .union _ vs => V.heightL vs + 1
  | .optional _ nv inner => max nv.height inner.height + 1
  | .maybe _ inner => inner.height + 1
  | .knr _ inner => inner.height + 1
  | .user _ inner => inner.height + 1
  | _ => 0
termination_by structural v => v
def V.heightL : List V → Nat
  | [] => 0
  | v :: vs => max v.height (V.heightL vs)
termination_by structural vs => vs
end

theorem V.height_mem : ∀ (vs : List V) (v : V), v ∈ vs → v.height ≤ V.heightL vs
  | [], _, h => by simp at h
  | w :: ws, v, h => by
    simp only [List.mem_cons] at h
    simp only [V.heightL]
    rcases h with rfl | h
    · exact Nat.le_max_left _ _
    · exact Nat.le_trans (V.height_mem ws v h) (Nat.le_max_right _ _)

mutual
def lazyFree : V → Bool
  | .lazy .. => false
  | .list _ item .. => lazyFree item
  | .set _ item .. => lazyFree item
  | .utuple _ item .. => lazyFree item
  | .ntuple _ fs .. => lazyFreeL fs
  | .map _ kv vv .. => lazyFree kv && lazyFree vv
  | .record _ _ vs => lazyFreeL vs
  | .union _ vs => lazyFreeL vs
  | .optional _ nv inner => lazyFree nv && lazyFree inner
  | .maybe _ inner => lazyFree inner
  | .knr _ inner => lazyFree inner
  | .user _ inner => lazyFree inner
  | _ => true
termination_by structural v => v
def lazyFreeL : List V → Bool
  | [] => true
  | v :: vs => lazyFree v && lazyFreeL vs
termination_by structural vs => vs
end

theorem lazyFreeL_mem : ∀ (vs : List V), lazyFreeL vs = true → ∀ v ∈ vs, lazyFree v = true
  | [], _, _, h => by simp at h
  | w :: ws, h, v, hv => by
    simp only [lazyFreeL, Bool.and_eq_true] at h
    simp only [List.mem_cons] at hv
    rcases hv with rfl | hv
    · exact h.1
    · exact lazyFreeL_mem ws h.2 v hv

theorem mem_pair {α} {a b q : α} (h : q ∈ [a, b]) : q = a ∨ q = b := by
  simpa using h

theorem subs_lazyFree {o env m v x p}
    (hv : lazyFree v = true) (hp : p ∈ subs o env m v x) : lazyFree p.1 = true ∧ p.1.height < v.height := by
  cases v with
  | scalar | equals | noneV | always | isDict => cases hp
  | list vid item ps aps c | set vid item ps aps c | utuple vid item ps aps c =>
    simp only [subs] at hp
    split at hp
    · obtain ⟨z, _, rfl⟩ := List.mem_map.1 hp
      exact ⟨hv, Nat.lt_succ_self _⟩
    · cases hp
  | ntuple vid fs oc c lp =>
    simp only [subs] at hp
    split at hp
    · obtain ⟨w, hw, hz⟩ := List.mem_flatMap.1 hp
      obtain ⟨z, _, rfl⟩ := List.mem_map.1 hz
      exact ⟨lazyFreeL_mem fs hv w hw, Nat.lt_succ_of_le (V.height_mem fs w hw)⟩
    · cases hp
  | map vid kv vv ps aps c =>
    simp only [lazyFree, Bool.and_eq_true] at hv
    simp only [subs] at hp
    split at hp
    · obtain ⟨q, _, hq⟩ := List.mem_flatMap.1 hp
      rcases mem_pair hq with rfl | rfl
      · exact ⟨hv.1, Nat.lt_succ_of_le (Nat.le_max_left _ _)⟩
      · exact ⟨hv.2, Nat.lt_succ_of_le (Nat.le_max_right _ _)⟩
    · cases hp
  | record vid cfg vs =>
    simp only [subs] at hp
    split at hp
    · obtain ⟨w, hw, hz⟩ := List.mem_flatMap.1 hp
      obtain ⟨z, _, rfl⟩ := List.mem_map.1 hz
      exact ⟨lazyFreeL_mem vs hv w hw, Nat.lt_succ_of_le (V.height_mem vs w hw)⟩
    · cases hp
  | union vid vs =>
    obtain ⟨w, hw, rfl⟩ := List.mem_map.1 hp
    exact ⟨lazyFreeL_mem vs hv w hw, Nat.lt_succ_of_le (V.height_mem vs w hw)⟩
  | optional vid nv inner =>
    simp only [lazyFree, Bool.and_eq_true] at hv
    rcases mem_pair hp with rfl | rfl
    · exact ⟨hv.1, Nat.lt_succ_of_le (Nat.le_max_left _ _)⟩
    · exact ⟨hv.2, Nat.lt_succ_of_le (Nat.le_max_right _ _)⟩
  | maybe vid inner =>
    simp only [subs] at hp
    split at hp
    · cases List.mem_singleton.1 hp; exact ⟨hv, Nat.lt_succ_self _⟩
    · cases hp
  | «lazy» vid ref => cases hv
  | knr vid inner | user vid inner => cases List.mem_singleton.1 hp; exact ⟨hv, Nat.lt_succ_self _⟩

/-- **termination without `Lazy`**: fuel `height + 1` suffices, for every value -/
theorem C01_terminates_lazyfree (o : Oracle) (env : Nat → V) (m : Mode) :
    ∀ n v, lazyFree v = true → v.height < n → ∀ x, ∃ r, run o env m n v x = some r := by
  intro n
  induction n with
  | zero => intro v _ h; omega
  | succ n ih =>
    intro v hf hh x
    refine run_succ_defined fun p hp => ih p.1 (subs_lazyFree hf hp).1 ?_ p.2
    have := (subs_lazyFree hf hp).2
    omega

/-- coercers of sequence / map validators that hand the elements on unchanged: none, or the default -/
def tameSeq : Option CoerceK → Bool
  | none => true
  | some .dflt => true
  | _ => false

/-- coercers of record-shaped validators that are not user-written -/
def tameRec : Option CoerceK → Bool
  | some (.user ..) => false
  | _ => true

mutual
/-- `gd b v`: every `Lazy` in `v` occurs below a container position (or `b` allows one here) -/
def gd (b : Bool) : V → Bool
  | .lazy .. => b
  | .list _ item _ _ c => if tameSeq c then gd true item else lazyFree item
  | .set _ item _ _ c => if tameSeq c then gd true item else lazyFree item
  | .utuple _ item _ _ c => if tameSeq c then gd true item else lazyFree item
  | .ntuple _ fs _ c _ => if tameSeq c then gdL true fs else lazyFreeL fs
  | .map _ kv vv _ _ c => if tameSeq c then gd true kv && gd true vv else lazyFree kv && lazyFree vv
  | .record _ cfg vs => if tameRec cfg.coerce then gdL true vs else lazyFreeL vs
  | .union _ vs => gdL b vs
  | .optional _ nv inner => gd b nv && gd b inner
  | .maybe _ inner => gd true inner
  | .knr _ inner => gd b inner
  | .user _ inner => gd b inner
  | _ => true
termination_by structural v => v
def gdL (b : Bool) : List V → Bool
  | [] => true
  | v :: vs => gd b v && gdL b vs
termination_by structural vs => vs
end

theorem gdL_mem (b : Bool) : ∀ (vs : List V), gdL b vs = true → ∀ v ∈ vs, gd b v = true
  | [], _, _, h => by simp at h
  | w :: ws, h, v, hv => by
    simp only [gdL, Bool.and_eq_true] at h
    simp only [List.mem_cons] at hv
    rcases hv with rfl | hv
    · exact h.1
    · exact gdL_mem b ws h.2 v hv

theorem pyIter_lt (x : PyVal) (xs : List PyVal) (h : pyIter x = some xs) : ∀ z ∈ xs, sizeOf z < sizeOf x := by
  fun_induction pyIter x with
  | case1 oid l | case2 oid l | case3 oid l =>
    cases h; intro z hz; have := List.sizeOf_lt_of_mem hz
    simp only [PyVal.list.sizeOf_spec, PyVal.tuple.sizeOf_spec, PyVal.set.sizeOf_spec]; omega
  | case4 oid kvs =>
    cases h; intro z hz
    obtain ⟨p, hp, rfl⟩ := List.mem_map.mp hz
    have := List.sizeOf_lt_of_mem hp
    have h2 : sizeOf p = 1 + sizeOf p.1 + sizeOf p.2 := by cases p; simp
    simp only [PyVal.dict.sizeOf_spec]; omega
  | case5 c v ih => intro z hz; have := ih h z hz; simp only [PyVal.sub.sizeOf_spec]; omega
  | case6 => cases h

theorem dictItems_lt (x : PyVal) (kvs : List (PyVal × PyVal)) (h : dictItems x = some kvs) :
    ∀ p ∈ kvs, sizeOf p.1 < sizeOf x ∧ sizeOf p.2 < sizeOf x := by
  fun_induction dictItems x with
  | case1 oid l =>
    cases h; intro p hp
    have := List.sizeOf_lt_of_mem hp
    have h2 : sizeOf p = 1 + sizeOf p.1 + sizeOf p.2 := by cases p; simp
    simp only [PyVal.dict.sizeOf_spec]; omega
  | case2 c v ih => intro p hp; have := ih h p hp; simp only [PyVal.sub.sizeOf_spec]; omega
  | case3 => cases h

theorem gate_tameSeq (o : Oracle) (tg dest : Ty) (c : Option CoerceK) (hc : tameSeq c = true)
    (htg : tg = .list ∨ tg = .set ∨ tg = .tuple ∨ tg = .dict) (x y : PyVal) (t : List Ev)
    (h : gate o tg dest c x = .acc y t) :
    y = x ∨ ∃ oid xs, x = .list oid xs ∧ y = .tuple 0 xs := by
  cases c with
  | none =>
    simp only [gate] at h
    split at h <;> cases h
    exact .inl rfl
  | some ck =>
    rcases applyCoerce_acc h with ⟨_, hd⟩ | ⟨rfl, _⟩ | ⟨_, _, _, rfl, _⟩
    · -- the default coercer does something only for tuples: a list becomes a tuple
      rcases htg with rfl | rfl | rfl | rfl
      · cases hd
      · cases hd
      · simp only [defaultCoerce] at hd
        split at hd <;> cases hd
        · exact .inl rfl
        · exact .inr ⟨_, _, rfl, rfl⟩
      · cases hd
    · cases hc
    · cases hc

theorem gate_tameSeq_iter (o : Oracle) (tg dest : Ty) (c : Option CoerceK) (hc : tameSeq c = true)
    (htg : tg = .list ∨ tg = .set ∨ tg = .tuple ∨ tg = .dict) (x y : PyVal) (t : List Ev)
    (h : gate o tg dest c x = .acc y t) (xs : List PyVal) (hi : pyIter y = some xs) :
    ∀ z ∈ xs, sizeOf z < sizeOf x := by
  rcases gate_tameSeq o tg dest c hc htg x y t h with rfl | ⟨oid, l, rfl, rfl⟩
  · exact pyIter_lt _ _ hi
  · simp only [pyIter, Option.some.injEq] at hi; subst hi
    exact pyIter_lt (.list oid l) l rfl

theorem seqPre_small (k : SeqKind) (o : Oracle) (m : Mode) (vid : Nat) (ps aps : List Pred)
    (c : Option CoerceK) (hc : tameSeq c = true) (x y : PyVal) (xs : List PyVal) (t : List Ev)
    (h : seqPre k o m vid ps aps c x = .inr (y, xs, t)) : ∀ z ∈ xs, sizeOf z < sizeOf x := by
  obtain ⟨_, t0, t1, hg, _, hi, _⟩ := ContPre.inr_iff.1 (seqPre_eq_iff.1 h)
  refine gate_tameSeq_iter o _ _ c hc ?_ x y t0 hg xs hi
  cases k <;> simp [SeqKind.gateTy]

theorem ntuplePre_small (o : Oracle) (vid : Nat) (c : Option CoerceK) (hc : tameSeq c = true) (lp arity : Nat)
    (x y : PyVal) (xs : List PyVal) (t : List Ev)
    (h : ntuplePre o vid c lp arity x = .inr (y, xs, t)) : ∀ z ∈ xs, sizeOf z < sizeOf x := by
  obtain ⟨hg, _, hi⟩ := NtuplePre.inr_iff.1 (ntuplePre_eq_iff.1 h)
  exact gate_tameSeq_iter o _ _ c hc (by simp) x y t hg xs hi

theorem mapPre_small (o : Oracle) (m : Mode) (vid : Nat) (ps aps : List Pred) (c : Option CoerceK)
    (hc : tameSeq c = true) (x y : PyVal) (kvs : List (PyVal × PyVal)) (t : List Ev)
    (h : mapPre o m vid ps aps c x = .inr (y, kvs, t)) :
    ∀ p ∈ kvs, sizeOf p.1 < sizeOf x ∧ sizeOf p.2 < sizeOf x := by
  obtain ⟨_, t0, t1, hg, _, hd, _⟩ := ContPre.inr_iff.1 (mapPre_eq_iff.1 h)
  rcases gate_tameSeq o _ _ c hc (by simp) x y t0 hg with rfl | ⟨oid, l, rfl, rfl⟩
  · exact dictItems_lt _ _ hd
  · cases hd

theorem instDict_small (oid doid doid' : Nat) (c : ClassId) (names : List String) (vals : List PyVal)
    (data : List (PyVal × PyVal)) (h : dictItems (instDict doid' names vals) = some data) :
    ∀ p ∈ data, sizeOf p.2 < sizeOf (PyVal.inst oid doid c names vals) := by
  simp only [instDict, dictItems, Option.some.injEq] at h
  subst h
  intro p hp
  obtain ⟨k, v⟩ := p
  have hv : v ∈ vals := (List.of_mem_zip hp).2
  have := List.sizeOf_lt_of_mem hv
  simp only [PyVal.inst.sizeOf_spec]; omega

theorem recGate_tame (o : Oracle) (cfg : RecCfg) (hc : tameRec cfg.coerce = true) (x y : PyVal) (t : List Ev)
    (h : recGate o cfg x = .acc y t) :
    y = x ∨ ∃ oid doid doid' c names vals, x = .inst oid doid c names vals ∧ y = instDict doid' names vals := by
  have hco : ∀ ck, cfg.coerce = some ck → applyCoerce o .dict .dict cfg.cls ck x = .acc y t →
      y = x ∨ ∃ oid doid doid' c names vals, x = .inst oid doid c names vals ∧ y = instDict doid' names vals := by
    intro ck hck ha
    rcases applyCoerce_acc ha with ⟨_, hd⟩ | ⟨_, oid, doid, doid', names, vals, rfl, rfl⟩ | ⟨cid, compat, f, rfl, _⟩
    · cases hd
    · exact .inr ⟨_, _, _, _, _, _, rfl, rfl⟩
    · rw [hck] at hc; cases hc
  revert h
  fun_cases recGate o cfg x <;> intro h
  case case5 _ ck hck | case8 ck hck _ _ _ => exact hco ck hck h
  case case10 | case11 => cases h; exact .inr ⟨_, _, _, _, _, _, rfl, rfl⟩
  all_goals cases h <;> exact .inl rfl

theorem recPre_small (o : Oracle) (m : Mode) (vid : Nat) (cfg : RecCfg) (hc : tameRec cfg.coerce = true)
    (x y : PyVal) (data : List (PyVal × PyVal)) (t : List Ev)
    (h : recPre o m vid cfg x = .inr (y, data, t)) : ∀ p ∈ data, sizeOf p.2 < sizeOf x := by
  obtain ⟨_, hg, hd, _⟩ := RecPre.inr_iff.1 (recPre_eq_iff.1 h)
  rcases recGate_tame o cfg hc x y t hg with rfl | ⟨oid, doid, doid', c, names, vals, rfl, rfl⟩
  · exact fun p hp => (dictItems_lt _ _ hd p hp).2
  · exact instDict_small oid doid doid' c names vals data hd

theorem common_fuel_pairs (o : Oracle) (env : Nat → V) (m : Mode) :
    ∀ (l : List (V × PyVal)), (∀ p ∈ l, ∃ n r, run o env m n p.1 p.2 = some r) →
      ∃ N, ∀ p ∈ l, ∃ r, run o env m N p.1 p.2 = some r := by
  intro l
  induction l with
  | nil => intro _; exact ⟨0, by simp⟩
  | cons p l ih =>
    intro h
    obtain ⟨N, hN⟩ := ih (fun q hq => h q (by simp [hq]))
    obtain ⟨n, r, hn⟩ := h p (by simp)
    refine ⟨max N n, ?_⟩
    intro q hq
    simp only [List.mem_cons] at hq
    rcases hq with rfl | hq
    · exact ⟨r, run_mono_le _ _ _ (Nat.le_max_right N n) _ _ _ hn⟩
    · obtain ⟨r', hr'⟩ := hN q hq
      exact ⟨r', run_mono_le _ _ _ (Nat.le_max_left N n) _ _ _ hr'⟩

def Term (o : Oracle) (env : Nat → V) (m : Mode) (v : V) (x : PyVal) : Prop :=
  ∃ n r, run o env m n v x = some r

theorem Term.of_lazyFree (o : Oracle) (env : Nat → V) (m : Mode) (v : V) (h : lazyFree v = true) (x : PyVal) :
    Term o env m v x := by
  obtain ⟨r, hr⟩ := C01_terminates_lazyfree o env m (v.height + 1) v h (Nat.lt_succ_self _) x
  exact ⟨_, r, hr⟩

theorem Term.of_subs {o env m v x}
    (h : ∀ p ∈ subs o env m v x, Term o env m p.1 p.2) : Term o env m v x := by
  obtain ⟨N, hN⟩ := common_fuel_pairs o env m _ h
  obtain ⟨r, hr⟩ := run_succ_defined hN
  exact ⟨N + 1, r, hr⟩

/-- below a guarded node: the child has no `Lazy`; or the component is smaller; or (wrappers, unions)
    the same value goes to a lower, equally guarded child; or (a `Lazy` where one is allowed) to a
    definition, where none is allowed at the top -/
theorem subs_gd {o env m b v x p}
    (henv : ∀ ref, gd false (env ref) = true) (hg : gd b v = true) (hp : p ∈ subs o env m v x) :
    lazyFree p.1 = true ∨ (sizeOf p.2 < sizeOf x ∧ gd true p.1 = true) ∨
      (p.2 = x ∧ gd b p.1 = true ∧ p.1.height < v.height) ∨ (p.2 = x ∧ b = true ∧ gd false p.1 = true) := by
  cases v with
  | scalar | equals | noneV | always | isDict => cases hp
  | list vid item ps aps c | set vid item ps aps c | utuple vid item ps aps c =>
    simp only [subs] at hp
    split at hp
    · rename_i y xs t hpre
      obtain ⟨z, hz, rfl⟩ := List.mem_map.1 hp
      simp only [gd] at hg
      split at hg
      · rename_i hc; exact .inr (.inl ⟨seqPre_small _ o m vid ps aps c hc x y xs t hpre z hz, hg⟩)
      · exact .inl hg
    · cases hp
  | ntuple vid fs oc c lp =>
    simp only [subs] at hp
    split at hp
    · rename_i y xs t hpre
      obtain ⟨w, hw, hq⟩ := List.mem_flatMap.1 hp
      obtain ⟨z, hz, rfl⟩ := List.mem_map.1 hq
      simp only [gd] at hg
      split at hg
      · rename_i hc
        exact .inr (.inl ⟨ntuplePre_small o vid c hc lp _ x y xs t hpre z hz, gdL_mem true fs hg w hw⟩)
      · exact .inl (lazyFreeL_mem fs hg w hw)
    · cases hp
  | map vid kv vv ps aps c =>
    simp only [subs] at hp
    split at hp
    · rename_i y kvs t hpre
      obtain ⟨q, hq, hp⟩ := List.mem_flatMap.1 hp
      simp only [gd] at hg
      split at hg
      · rename_i hc
        have hlt := mapPre_small o m vid ps aps c hc x y kvs t hpre q hq
        simp only [Bool.and_eq_true] at hg
        rcases mem_pair hp with rfl | rfl
        · exact .inr (.inl ⟨hlt.1, hg.1⟩)
        · exact .inr (.inl ⟨hlt.2, hg.2⟩)
      · simp only [Bool.and_eq_true] at hg
        rcases mem_pair hp with rfl | rfl
        · exact .inl hg.1
        · exact .inl hg.2
    · cases hp
  | record vid cfg vs =>
    simp only [subs] at hp
    split at hp
    · rename_i y data t hpre
      obtain ⟨w, hw, hz⟩ := List.mem_flatMap.1 hp
      obtain ⟨q, hq, rfl⟩ := List.mem_map.1 hz
      simp only [gd] at hg
      split at hg
      · rename_i hc
        exact .inr (.inl ⟨recPre_small o m vid cfg hc x y data t hpre q hq, gdL_mem true vs hg w hw⟩)
      · exact .inl (lazyFreeL_mem vs hg w hw)
    · cases hp
  | union vid vs =>
    obtain ⟨w, hw, rfl⟩ := List.mem_map.1 hp
    exact .inr (.inr (.inl ⟨rfl, gdL_mem b vs hg w hw, Nat.lt_succ_of_le (V.height_mem vs w hw)⟩))
  | optional vid nv inner =>
    simp only [gd, Bool.and_eq_true] at hg
    rcases mem_pair hp with rfl | rfl
    · exact .inr (.inr (.inl ⟨rfl, hg.1, Nat.lt_succ_of_le (Nat.le_max_left _ _)⟩))
    · exact .inr (.inr (.inl ⟨rfl, hg.2, Nat.lt_succ_of_le (Nat.le_max_right _ _)⟩))
  | maybe vid inner =>
    simp only [subs] at hp
    split at hp
    · cases List.mem_singleton.1 hp
      exact .inr (.inl ⟨by simp only [PyVal.just.sizeOf_spec]; omega, hg⟩)
    · cases hp
  | «lazy» vid ref => cases List.mem_singleton.1 hp; exact .inr (.inr (.inr ⟨rfl, hg, henv ref⟩))
  | knr vid inner | user vid inner =>
    cases List.mem_singleton.1 hp
    exact .inr (.inr (.inl ⟨rfl, hg, Nat.lt_succ_self _⟩))

theorem term_guarded (o : Oracle) (env : Nat → V) (m : Mode) (henv : ∀ ref, gd false (env ref) = true) :
    ∀ (x : PyVal) (b : Bool) (v : V), gd b v = true → Term o env m v x
  | x, b, v, hg => by
    refine Term.of_subs fun p hp => ?_
    rcases subs_gd henv hg hp with h1 | ⟨h1, h2⟩ | ⟨h1, h2, h3⟩ | ⟨h1, hb, h2⟩
    · exact Term.of_lazyFree o env m p.1 h1 p.2
    · exact term_guarded o env m henv p.2 true p.1 h2
    · rw [h1]; exact term_guarded o env m henv x b p.1 h2
    · rw [h1]; exact term_guarded o env m henv x false p.1 h2
termination_by x b v => (sizeOf x, b.toNat, v.height)
decreasing_by
  · exact Prod.Lex.left _ _ h1
  · exact Prod.Lex.right _ (Prod.Lex.right _ h3)
  · exact Prod.Lex.right _ (Prod.Lex.left _ _ (hb ▸ Nat.zero_lt_one))

/-- **C01, termination (recursive definitions), partial**: in an environment of guarded definitions every
    guarded tree returns on every value — and returns the same with any larger fuel.  "Partial": an
    unguarded self-reference is excluded (`unguarded_diverges`). -/
theorem C01_terminates_partial (o : Oracle) (env : Nat → V) (m : Mode) (henv : ∀ ref, gd false (env ref) = true)
    (v : V) (hv : gd false v = true) (x : PyVal) :
    ∃ n r, ∀ k, n ≤ k → run o env m k v x = some r := by
  obtain ⟨n, r, hr⟩ := term_guarded o env m henv x false v hv
  exact ⟨n, r, fun k hk => run_mono_le o env m hk v x r hr⟩

/-- the excluded case: a definition that refers to itself without a container in between never
    returns, whatever the fuel (the real library exhausts the interpreter stack) -/
theorem unguarded_diverges (o : Oracle) (m : Mode) (x : PyVal) :
    ∀ n, run o (fun _ => .lazy 1 0) m n (.lazy 1 0) x = none := by
  intro n
  induction n with
  | zero => rfl
  | succ n ih => simpa [run] using ih

/-- **C01, total, partial**: a `Safe`, guarded tree in a `Safe`, guarded environment returns Valid or
    Invalid on every value, with every sufficiently large fuel -/
theorem C01_total_partial (o : Oracle) (env : Nat → V) (m : Mode)
    (hsafe : ∀ ref, Safe o m (env ref)) (henv : ∀ ref, gd false (env ref) = true)
    (v : V) (hs : Safe o m v) (hv : gd false v = true) (x : PyVal) :
    ∃ n out t, (∀ k, n ≤ k → run o env m k v x = some (out, t)) ∧
      ((∃ w, out = .valid w) ∨ (∃ e, out = .invalid e)) := by
  obtain ⟨n, ⟨out, t⟩, h⟩ := C01_terminates_partial o env m henv v hv x
  refine ⟨n, out, t, h, ?_⟩
  have hc := C01_never_raises_partial o m env hsafe n v hs x out t (h n (Nat.le_refl n))
  cases out with
  | valid w => exact .inl ⟨w, rfl⟩
  | invalid e => exact .inr ⟨e, rfl⟩
  | raised e => exact absurd rfl (hc e)

/-- the recursive definition `T = Union[int, List[T]]` of `Properties/C05` is guarded -/
example : gd false (recEnv 0) = true := by decide

example (o : Oracle) (m : Mode) (x : PyVal) :
    ∃ n r, ∀ k, n ≤ k → run o recEnv m k (recEnv 0) x = some r :=
  C01_terminates_partial o recEnv m (fun _ => by simp only [recEnv]; decide) _ (by decide) x

example : lazyFree (.list 1 (.union 2 [.scalar 3 .int none [] [] [], .noneV 4 none]) [] [] none) = true ∧
    (V.list 1 (.union 2 [.scalar 3 .int none [] [] [], .noneV 4 none]) [] [] none).height = 2 := by decide

end Koda
