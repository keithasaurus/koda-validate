/-
  C03 — the n-tuple validator *as written in /repo's current source*.

  `Generated/NTupleSrc.lean` is rewritten on every run from the AST of `NTupleValidator._validate_to_tuple` and
  `_validate_to_tuple_async` (koda_validate/tuple.py).  Interpreting the translated methods
  (`KodaModel/PyNTuple.lean`) is the model's `ntupleStep`: for every configuration (coercer or not, whole-object check or
  not), every tuple of slot validators and every input — gate, the arity check on the coerced value (before any slot is
  looked at), every slot validated by its own validator, every failing index with the child's own `Invalid`, the
  whole-object check on the tuple of payloads only when every slot passed, trace and exceptions.
-/
import KodaModel.Generated.NTupleSrc
import KodaModel.Lemmas.SrcLoops

namespace Koda

-- realises the equations of the interpreter once for this file; otherwise every proof that unfolds it derives them again
attribute [local simp] NExp.eval NStmt.exec NStmt.execL ntruthy nselfAttr NEnv.get NEnv.set

def nGate : NStmt :=
  .ite (.selfAttr .coerce)
    [.ite (.not (.attr (.walrus .coerced (.call1 (.selfAttr .coerce) .val)) .isJust))
       [.ret (.pair (.bool false) (.mkInvalid (.mkCoercionErr (.attr (.selfAttr .coerce) .compatibleTypes) .listTy) .val .self))]
       [.assign .coercedVal (.attr (.var .coerced) .valA)]]
    [.ite (.typeIs .val .tupleTy) [.assign .coercedVal .val]
       [.ret (.pair (.bool false) (.mkInvalid (.mkTypeErr .tupleTy) .val .self))]]

def nArity : NStmt :=
  .ite (.not (.call1 (.selfAttr .lenPredicate) (.var .coercedVal)))
    [.ret (.pair (.bool false) (.mkInvalid (.mkPredErrs (.list1 (.selfAttr .lenPredicate))) (.var .coercedVal) .self))] []

def nLoopBody (aw : Bool) : List NStmt :=
  [.assign2 .succeeded .newVal
     (if aw then .await (.call1 (.var .validator) (.var .tupleVal)) else .call1 (.var .validator) (.var .tupleVal)),
   .ite (.var .succeeded) [.append .vals (.var .newVal)] [.setItem .errs (.var .i) (.var .newVal)]]

def nLoop (wrapped : NSelf) (aw : Bool) : NStmt :=
  .forIn3 .i .validator .tupleVal (.enumerate (.zip (.selfAttr wrapped) (.var .coercedVal))) (nLoopBody aw)

def nFinal : NStmt :=
  .ite (.var .errs)
    [.ret (.pair (.bool false) (.mkInvalid (.mkIndexErrs (.var .errs)) (.var .coercedVal) .self))]
    [.assign .obj (.tupleOf (.var .vals)),
     .ite (.isNone (.selfAttr .validateObject))
       [.ret (.pair (.bool true) (.var .obj))]
       [.assign .objResult (.call1 (.selfAttr .validateObject) (.var .obj)),
        .ite (.isNone (.var .objResult))
          [.ret (.pair (.bool true) (.var .obj))]
          [.ret (.pair (.bool false) (.mkInvalid (.var .objResult) (.var .obj) .self))]]]

def nTail (wrapped : NSelf) (aw : Bool) : List NStmt :=
  [.assign .errs .emptyDict, .assign .vals .emptyList, nLoop wrapped aw, nFinal]

theorem ntupleSync_eq : Src.ntupleSync = nGate :: nArity :: nTail .wrappedSync false := rfl
theorem ntupleAsync_eq : Src.ntupleAsync = nGate :: nArity :: nTail .wrappedAsync true := rfl

def outN : Except (NErr × List Ev) NFlow → Option (Out × List Ev)
  | .error (.exn e, t) => some (.raised e, t)
  | .error (_, _) => none
  | .ok (.returned (.pair (.bool true) (.tupled ws)) st) => some (.valid (.tuple 0 ws), st.tr)
  | .ok (.returned (.pair (.bool false) (.invalid e)) st) => some (.invalid e, st.tr)
  | .ok _ => none

theorem runNTupleMethod_eq (o : Oracle) (cfg : NTupCfg) (body : List NStmt) (x : PyVal) :
    runNTupleMethod o cfg body x = outN (NStmt.execL o cfg x { env := {}, tr := [] } body) := by
  simp only [runNTupleMethod, outN]
  rfl

theorem nexecL_nil (o : Oracle) (cfg : NTupCfg) (x : PyVal) (st : NSt) : NStmt.execL o cfg x st [] = .ok (.next st) := by
  simp only [NStmt.execL]

theorem nexecL_cons (o : Oracle) (cfg : NTupCfg) (x : PyVal) (st : NSt) (s : NStmt) (rest : List NStmt) :
    NStmt.execL o cfg x st (s :: rest) =
      (match s.exec o cfg x st with
       | .error err => .error err
       | .ok (.next st) => NStmt.execL o cfg x st rest
       | .ok (.returned d st) => .ok (.returned d st)) := by
  simp only [NStmt.execL]
  rfl

theorem nexecL_single (o : Oracle) (cfg : NTupCfg) (x : PyVal) (st : NSt) (s : NStmt) :
    NStmt.execL o cfg x st [s] = NStmt.exec o cfg x st s := by
  rw [nexecL_cons]
  simp only [nexecL_nil]
  rcases NStmt.exec o cfg x st s with _ | (_ | _) <;> rfl

theorem nexec_ite (o : Oracle) (cfg : NTupCfg) (x : PyVal) (st : NSt) (c : NExp) (t e : List NStmt) :
    NStmt.exec o cfg x st (.ite c t e) =
      (match c.eval o cfg x st with
       | .error err => .error err
       | .ok (d, st) =>
         match ntruthy d with
         | none => .error (.stuck "truth value", st.tr)
         | some true => NStmt.execL o cfg x st t
         | some false => NStmt.execL o cfg x st e) := by
  simp only [NStmt.exec]
  rfl

theorem nexec_assign (o : Oracle) (cfg : NTupCfg) (x : PyVal) (st : NSt) (v : NVar) (e : NExp) :
    NStmt.exec o cfg x st (.assign v e) =
      (match e.eval o cfg x st with
       | .error err => .error err
       | .ok (d, st) => .ok (.next { st with env := st.env.set v d })) := by
  simp only [NStmt.exec]
  rfl

theorem nexec_ite_pure (o : Oracle) (cfg : NTupCfg) (x : PyVal) (st : NSt) (c : NExp) (t e : List NStmt) (d : NV) (b : Bool)
    (hc : c.eval o cfg x st = .ok (d, st)) (hb : ntruthy d = some b) :
    NStmt.exec o cfg x st (.ite c t e) = NStmt.execL o cfg x st (if b then t else e) := by
  rw [nexec_ite, hc]
  simp only [hb]
  cases b <;> rfl

theorem neval_selfAttr (o : Oracle) (cfg : NTupCfg) (x : PyVal) (st : NSt) (a : NSelf) (r : NV) (h : nselfAttr cfg a = some r) :
    (NExp.selfAttr a).eval o cfg x st = .ok (r, st) := by
  simp only [NExp.eval, h]

theorem nGate_exec (o : Oracle) (cfg : NTupCfg) (x : PyVal) (st : NSt) (rest : List NStmt) :
    GateStage outN (fun st' => NStmt.execL o cfg x st' rest) (fun st' y t => st'.env.coercedVal = .py y ∧ st'.tr = st.tr ++ t)
      x cfg.vid st.tr (gate o Ty.tuple Ty.list cfg.coerce x) (NStmt.execL o cfg x st (nGate :: rest)) := by
  rw [nexecL_cons, nGate]
  cases hc : cfg.coerce with
  | none =>
    rw [nexec_ite_pure o cfg x st _ _ _ .none false (neval_selfAttr o cfg x st .coerce _ (by rw [nselfAttr, hc])) rfl]
    have hcond : (NExp.typeIs .val .tupleTy).eval o cfg x st = .ok (.bool (x.ty == .tuple), st) := by
      simp only [NExp.eval]
    simp only [Bool.false_eq_true, if_false, nexecL_single, gate]
    rw [nexec_ite_pure o cfg x st _ _ _ _ _ hcond rfl]
    by_cases hty : x.ty = .tuple
    · rw [if_pos hty, beq_iff_eq.mpr hty]
      exact .of_acc ⟨{ st with env := st.env.set .coercedVal (.py x) }, rfl, rfl, (List.append_nil _).symm⟩
    · rw [if_neg hty, beq_eq_false_iff_ne.mpr hty]
      refine .of_rej ?_
      simp only [Bool.false_eq_true, if_false, nexecL_single, NStmt.exec, NExp.eval, List.append_nil]
      rfl
  | some c =>
    have hsa : nselfAttr cfg .coerce = some (.coercer c) := by rw [nselfAttr, hc]
    rw [nexec_ite_pure o cfg x st _ _ _ _ true (neval_selfAttr o cfg x st .coerce _ hsa) rfl]
    have hcond : (NExp.not (.attr (.walrus .coerced (.call1 (.selfAttr .coerce) .val)) .isJust)).eval o cfg x st =
        .ok (.bool (!(callTupCoercer o c x).1.isSome),
          { env := st.env.set .coerced (.maybe (callTupCoercer o c x).1), tr := st.tr ++ (callTupCoercer o c x).2 }) := by
      simp only [NExp.eval, hsa, ntruthy]
    simp only [if_true, nexecL_single, gate]
    rw [nexec_ite, hcond]
    rcases callCoercer_cases o .tuple .list c x (callTupCoercer o c x) (tupCompat c) rfl (by cases c <;> rfl) with ⟨y, t, hg, hcc⟩ | ⟨t, hg, hcc⟩ <;> rw [hg, hcc]
    · exact .of_acc ⟨{ env := (st.env.set .coerced (.maybe (some y))).set .coercedVal (.py y), tr := st.tr ++ t }, rfl, rfl, rfl⟩
    · refine .of_rej ?_
      simp only [Option.isSome_none, Bool.not_false, ntruthy, nexecL_single, NStmt.exec, NExp.eval, hsa]
      rfl

/-- `if not self._len_predicate(coerced_val): return False, Invalid(PredicateErrs([self._len_predicate]), …)` -/
theorem nArity_exec (o : Oracle) (cfg : NTupCfg) (x : PyVal) (st : NSt) (y : PyVal) (hy : st.env.coercedVal = .py y)
    (rest : List NStmt) :
    (pyLen y = none → outN (NStmt.execL o cfg x st (nArity :: rest)) = some (.raised .typeError, st.tr)) ∧
    (∀ n, pyLen y = some n → n ≠ cfg.fields.length →
      outN (NStmt.execL o cfg x st (nArity :: rest)) = some (.invalid (.mk (.preds [cfg.lenPid]) y cfg.vid []), st.tr)) ∧
    (pyLen y = some cfg.fields.length → NStmt.execL o cfg x st (nArity :: rest) = NStmt.execL o cfg x st rest) := by
  have hcv : st.env.get .coercedVal = .py y := hy
  rw [nexecL_cons, nArity, nexec_ite]
  refine ⟨fun h => ?_, fun n h hne => ?_, fun h => ?_⟩
  · simp only [NExp.eval, nselfAttr, hcv, h]; rfl
  · simp only [NExp.eval, nselfAttr, hcv, h, beq_eq_false_iff_ne.mpr hne, ntruthy, Bool.not_false, nexecL_single, NStmt.exec]; rfl
  · simp only [NExp.eval, nselfAttr, hcv, h, beq_self_eq_true, ntruthy, Bool.not_true, nexecL_nil]

structure NInv (st : NSt) (rl : List PyVal) (ie : List (Nat × Inv)) (cv : NV) : Prop where
  rl : st.env.vals = .payloads rl
  ie : st.env.errs = .idxErrs ie
  cv : st.env.coercedVal = cv

/-- the hypothesis `Hb` of `nforFold3_fields` unfolds to this -/
def NRound (execBody : NSt → Except (NErr × List Ev) NFlow) : Prop :=
  ∀ (st : NSt) (n : Nat) (ev : Ev1) (y : PyVal) (rl : List PyVal) (ie : List (Nat × Inv)) (cv : NV),
    st.env.i = .nat n → st.env.validator = .fieldV ev → st.env.tupleVal = .py y → NInv st rl ie cv →
    (ev y = none → ∃ t, execBody st = .error (.diverge, t)) ∧
    (∀ e t, ev y = some (.raised e, t) → execBody st = .error (.exn e, st.tr ++ t)) ∧
    (∀ w t, ev y = some (.valid w, t) →
      ∃ st1, execBody st = .ok (.next st1) ∧ NInv st1 (rl ++ [w]) ie cv ∧ st1.tr = st.tr ++ t) ∧
    (∀ e t, ev y = some (.invalid e, t) →
      ∃ st1, execBody st = .ok (.next st1) ∧ NInv st1 rl (ie ++ [(n, e)]) cv ∧ st1.tr = st.tr ++ t)

theorem nCallSlot_exec (o : Oracle) (cfg : NTupCfg) (x : PyVal) (aw : Bool) (st : NSt) (ev : Ev1) (y : PyVal)
    (hv : st.env.validator = .fieldV ev) (hy : st.env.tupleVal = .py y) :
    NStmt.exec o cfg x st (.assign2 .succeeded .newVal
        (if aw then .await (.call1 (.var .validator) (.var .tupleVal)) else .call1 (.var .validator) (.var .tupleVal))) =
      (match ev y with
       | none => .error (.diverge, st.tr)
       | some (.raised e, t) => .error (.exn e, st.tr ++ t)
       | some (.valid w, t) => .ok (.next ⟨{ st.env with succeeded := .bool true, newVal := .py w }, st.tr ++ t⟩)
       | some (.invalid e, t) => .ok (.next ⟨{ st.env with succeeded := .bool false, newVal := .invalid e }, st.tr ++ t⟩)) := by
  have hv' : st.env.get .validator = .fieldV ev := hv
  have hy' : st.env.get .tupleVal = .py y := hy
  have haw : (if aw then NExp.await (.call1 (.var .validator) (.var .tupleVal)) else .call1 (.var .validator) (.var .tupleVal)).eval
      o cfg x st = (NExp.call1 (.var .validator) (.var .tupleVal)).eval o cfg x st := by cases aw <;> rfl
  simp only [NStmt.exec, haw, NExp.eval, hv', hy']
  rcases ev y with _ | ⟨_ | _ | _, t⟩ <;> rfl

theorem nFile_exec (o : Oracle) (cfg : NTupCfg) (x : PyVal) (st : NSt) (n : Nat) (rl : List PyVal) (ie : List (Nat × Inv))
    (hi : st.env.i = .nat n) (hrl : st.env.vals = .payloads rl) (hie : st.env.errs = .idxErrs ie) :
    (∀ w, st.env.succeeded = .bool true → st.env.newVal = .py w →
      NStmt.exec o cfg x st (.ite (.var .succeeded) [.append .vals (.var .newVal)] [.setItem .errs (.var .i) (.var .newVal)]) =
        .ok (.next { st with env := { st.env with vals := .payloads (rl ++ [w]) } })) ∧
    (∀ e, st.env.succeeded = .bool false → st.env.newVal = .invalid e →
      NStmt.exec o cfg x st (.ite (.var .succeeded) [.append .vals (.var .newVal)] [.setItem .errs (.var .i) (.var .newVal)]) =
        .ok (.next { st with env := { st.env with errs := .idxErrs (ie ++ [(n, e)]) } })) := by
  have hi' : st.env.get .i = .nat n := hi
  have hrl' : st.env.get .vals = .payloads rl := hrl
  have hie' : st.env.get .errs = .idxErrs ie := hie
  refine ⟨fun w hs hr => ?_, fun e hs hr => ?_⟩
  · have hs' : st.env.get .succeeded = .bool true := hs
    have hr' : st.env.get .newVal = .py w := hr
    simp only [NStmt.exec, NExp.eval, hs', hr', hrl', ntruthy, nexecL_single]
    rfl
  · have hs' : st.env.get .succeeded = .bool false := hs
    have hr' : st.env.get .newVal = .invalid e := hr
    simp only [NStmt.exec, NExp.eval, hs', hr', hi', hie', ntruthy, nexecL_single]
    rfl

theorem nLoopBody_exec (o : Oracle) (cfg : NTupCfg) (x : PyVal) (aw : Bool) :
    NRound (fun st => NStmt.execL o cfg x st (nLoopBody aw)) := by
  intro st n ev y rl ie cv hi hv hy hinv
  have hd := nCallSlot_exec o cfg x aw st ev y hv hy
  dsimp only [nLoopBody]
  rw [nexecL_cons]
  refine ⟨fun h => ?_, fun e t h => ?_, fun w t h => ?_, fun e t h => ?_⟩ <;> simp only [h] at hd <;> rw [hd]
  · exact ⟨st.tr, rfl⟩
  · simp only [nexecL_single, (nFile_exec o cfg x ⟨{ st.env with succeeded := .bool true, newVal := .py w }, st.tr ++ t⟩
      n rl ie hi hinv.rl hinv.ie).1 w rfl rfl]
    exact ⟨_, rfl, ⟨rfl, hinv.ie, hinv.cv⟩, rfl⟩
  · simp only [nexecL_single, (nFile_exec o cfg x ⟨{ st.env with succeeded := .bool false, newVal := .invalid e }, st.tr ++ t⟩
      n rl ie hi hinv.rl hinv.ie).2 e rfl rfl]
    exact ⟨_, rfl, ⟨hinv.rl, rfl, hinv.cv⟩, rfl⟩

theorem nforFold3_fields (execBody : NSt → Except (NErr × List Ev) NFlow)
    (Hb : ∀ (st : NSt) (n : Nat) (ev : Ev1) (y : PyVal) (rl : List PyVal) (ie : List (Nat × Inv)) (cv : NV),
      st.env.i = .nat n → st.env.validator = .fieldV ev → st.env.tupleVal = .py y → NInv st rl ie cv →
      (ev y = none → ∃ t, execBody st = .error (.diverge, t)) ∧
      (∀ e t, ev y = some (.raised e, t) → execBody st = .error (.exn e, st.tr ++ t)) ∧
      (∀ w t, ev y = some (.valid w, t) →
        ∃ st1, execBody st = .ok (.next st1) ∧ NInv st1 (rl ++ [w]) ie cv ∧ st1.tr = st.tr ++ t) ∧
      (∀ e t, ev y = some (.invalid e, t) →
        ∃ st1, execBody st = .ok (.next st1) ∧ NInv st1 rl (ie ++ [(n, e)]) cv ∧ st1.tr = st.tr ++ t)) :
    ∀ (evs : List Ev1) (xs : List PyVal) (n : Nat) (st : NSt) (rl : List PyVal) (ie : List (Nat × Inv)) (cv : NV),
      NInv st rl ie cv →
      (loopFields evs xs n = none →
        ∃ t, nforFold3 execBody .i .validator .tupleVal (evs.zip xs) n st = .error (.diverge, t)) ∧
      (∀ r e, loopFields evs xs n = some r → r.r = some e →
        nforFold3 execBody .i .validator .tupleVal (evs.zip xs) n st = .error (.exn e, st.tr ++ r.t)) ∧
      (∀ r, loopFields evs xs n = some r → r.r = none →
        ∃ st1, nforFold3 execBody .i .validator .tupleVal (evs.zip xs) n st = .ok (.next st1) ∧ st1.tr = st.tr ++ r.t ∧
          NInv st1 (rl ++ r.ws) (ie ++ r.es) cv) := by
  -- the three cases as one statement by cases on the model's result, which is what the induction goes through
  have aux : ∀ (evs : List Ev1) (xs : List PyVal) (n : Nat) (st : NSt) (rl : List PyVal) (ie : List (Nat × Inv)) (cv : NV),
      NInv st rl ie cv →
      match loopFields evs xs n with
      | none => ∃ t, nforFold3 execBody .i .validator .tupleVal (evs.zip xs) n st = .error (.diverge, t)
      | some r =>
        match r.r with
        | some e => nforFold3 execBody .i .validator .tupleVal (evs.zip xs) n st = .error (.exn e, st.tr ++ r.t)
        | none => ∃ st1, nforFold3 execBody .i .validator .tupleVal (evs.zip xs) n st = .ok (.next st1) ∧
            st1.tr = st.tr ++ r.t ∧ NInv st1 (rl ++ r.ws) (ie ++ r.es) cv := by
    intro evs
    induction evs with
    | nil =>
      intro xs n st rl ie cv hinv
      exact ⟨st, rfl, (List.append_nil _).symm, by rw [List.append_nil, List.append_nil]; exact hinv⟩
    | cons ev evs ih =>
      intro xs n st rl ie cv hinv
      cases xs with
      | nil => exact ⟨st, rfl, (List.append_nil _).symm, by rw [List.append_nil, List.append_nil]; exact hinv⟩
      | cons y ys =>
        obtain ⟨b1, b2, b3, b4⟩ := Hb { st with env := ((st.env.set .i (.nat n)).set .validator (.fieldV ev)).set .tupleVal (.py y) }
          n ev y rl ie cv rfl rfl rfl
          ⟨by simp only [NEnv.set]; exact hinv.rl, by simp only [NEnv.set]; exact hinv.ie, by simp only [NEnv.set]; exact hinv.cv⟩
        simp only [loopFields, List.zip_cons_cons, nforFold3]
        rcases hc : ev y with _ | ⟨w | e | e, t⟩ <;> simp only
        · obtain ⟨t0, h0⟩ := b1 hc
          exact ⟨t0, by rw [h0]⟩
        · obtain ⟨st1, h0, hi1, ht1⟩ := b3 w t hc
          have h := ih ys (n + 1) st1 _ ie cv hi1
          rw [h0]
          rcases hl : loopFields evs ys (n + 1) with _ | r <;> simp only [hl] at h ⊢
          · exact h
          · rcases hr : r.r with _ | e <;> simp only [hr] at h ⊢
            · obtain ⟨st2, j1, j2, j3⟩ := h
              exact ⟨st2, j1, by rw [j2, ht1, List.append_assoc], by rw [← List.singleton_append, ← List.append_assoc]; exact j3⟩
            · rw [h, ht1, List.append_assoc]
        · obtain ⟨st1, h0, hi1, ht1⟩ := b4 e t hc
          have h := ih ys (n + 1) st1 rl _ cv hi1
          rw [h0]
          rcases hl : loopFields evs ys (n + 1) with _ | r <;> simp only [hl] at h ⊢
          · exact h
          · rcases hr : r.r with _ | e' <;> simp only [hr] at h ⊢
            · obtain ⟨st2, j1, j2, j3⟩ := h
              exact ⟨st2, j1, by rw [j2, ht1, List.append_assoc], by rw [← List.singleton_append, ← List.append_assoc]; exact j3⟩
            · rw [h, ht1, List.append_assoc]
        · rw [b2 e t hc]
  intro evs xs n st rl ie cv hinv
  have h := aux evs xs n st rl ie cv hinv
  exact loopResult_cases h

theorem nFinal_exec (o : Oracle) (cfg : NTupCfg) (x : PyVal) (st : NSt) (y : PyVal) (rl : List PyVal) (ie : List (Nat × Inv))
    (hinv : NInv st rl ie (.py y)) :
    outN (NStmt.execL o cfg x st [nFinal]) =
      some (if !ie.isEmpty then (.invalid (.mk (.index (ie.map Prod.fst)) y cfg.vid (ie.map Prod.snd)), st.tr)
            else ((runObjCheck cfg.oc cfg.vid (.tuple 0 rl)).1, st.tr ++ (runObjCheck cfg.oc cfg.vid (.tuple 0 rl)).2)) := by
  have h1 : st.env.get .vals = .payloads rl := hinv.rl
  have h2 : st.env.get .errs = .idxErrs ie := hinv.ie
  have h3 : st.env.get .coercedVal = .py y := hinv.cv
  rw [nexecL_single, nFinal, nexec_ite]
  simp only [NExp.eval, h2, ntruthy]
  cases ie with
  | cons a l =>
    simp only [List.isEmpty_cons, Bool.not_false, if_true, nexecL_single, NStmt.exec, NExp.eval, h2, h3]
    rfl
  | nil =>
    -- `obj = tuple(vals)`, then `self.validate_object`, if there is one, has the last word
    simp only [List.isEmpty_nil, Bool.not_true, Bool.false_eq_true, if_false, nexecL_cons, nexec_assign, NExp.eval, h1]
    cases hoc : cfg.oc with
    | none =>
      simp only [NExp.eval, nselfAttr, hoc, ntruthy, nexecL_single, NStmt.exec, NEnv.get, NEnv.set, runObjCheck,
        List.append_nil]
      rfl
    | some c =>
      simp only [nexec_ite, NExp.eval, nselfAttr, hoc, ntruthy, nexecL_cons, nexec_assign, NEnv.get, NEnv.set, runObjCheck]
      cases c.f (.tuple 0 rl) <;> simp only [NExp.eval, NEnv.get, NStmt.exec] <;> rfl

theorem nLoop_exec (o : Oracle) (cfg : NTupCfg) (x : PyVal) (wrapped : NSelf) (aw : Bool)
    (hw : wrapped = .wrappedSync ∨ wrapped = .wrappedAsync) (st : NSt) (y : PyVal) (hy : st.env.coercedVal = .py y) :
    NStmt.exec o cfg x st (nLoop wrapped aw) =
      (match pyIter y with
       | none => .error (.exn .typeError, st.tr)
       | some xs => nforFold3 (fun st => NStmt.execL o cfg x st (nLoopBody aw)) .i .validator .tupleVal (cfg.fields.zip xs) 0 st) := by
  have hcv : st.env.get .coercedVal = .py y := hy
  have hsa : nselfAttr cfg wrapped = some (.fieldVs cfg.fields) := by rcases hw with rfl | rfl <;> rfl
  simp only [nLoop, NStmt.exec, NExp.eval, hsa, hcv]
  cases pyIter y <;> rfl

theorem nTail_exec (o : Oracle) (cfg : NTupCfg) (x : PyVal) (wrapped : NSelf) (aw : Bool)
    (hw : wrapped = .wrappedSync ∨ wrapped = .wrappedAsync) (st : NSt) (y : PyVal) (hy : st.env.coercedVal = .py y) :
    outN (NStmt.execL o cfg x st (nTail wrapped aw)) =
      (match pyIter y with
       | none => some (.raised .typeError, st.tr)
       | some xs =>
         match loopFields cfg.fields xs 0 with
         | none => none
         | some r => some (ntupleFinish cfg.vid cfg.oc y st.tr r)) := by
  have hinv0 : NInv { st with env := { st.env with errs := .idxErrs [], vals := .payloads [] } } [] [] (.py y) := ⟨rfl, rfl, hy⟩
  have hinit : NStmt.execL o cfg x st (nTail wrapped aw) =
      NStmt.execL o cfg x { st with env := { st.env with errs := .idxErrs [], vals := .payloads [] } } [nLoop wrapped aw, nFinal] := by
    simp only [nTail, nexecL_cons, nexec_assign, NExp.eval]; rfl
  rw [hinit, nexecL_cons, nLoop_exec o cfg x wrapped aw hw _ y hinv0.cv]
  cases pyIter y with
  | none => rfl
  | some xs =>
    obtain ⟨l1, l2, l3⟩ := nforFold3_fields (fun st => NStmt.execL o cfg x st (nLoopBody aw)) (nLoopBody_exec o cfg x aw)
      cfg.fields xs 0 _ [] [] (.py y) hinv0
    simp only
    cases hl : loopFields cfg.fields xs 0 with
    | none =>
      obtain ⟨t, ht⟩ := l1 hl
      rw [ht]; rfl
    | some r =>
      cases hr : r.r with
      | some e => rw [l2 r e hl hr]; simp only [ntupleFinish, hr]; rfl
      | none =>
        obtain ⟨st1, h1, h2, h3⟩ := l3 r hl hr
        rw [h1]
        simp only
        rw [nFinal_exec o cfg x st1 y r.ws r.es h3, h2]
        simp only [ntupleFinish, hr]

theorem src_ntuple_generic (o : Oracle) (cfg : NTupCfg) (x : PyVal) (wrapped : NSelf) (aw : Bool)
    (hw : wrapped = .wrappedSync ∨ wrapped = .wrappedAsync) :
    outN (NStmt.execL o cfg x { env := {}, tr := [] } (nGate :: nArity :: nTail wrapped aw)) =
      ntupleStep o cfg.vid cfg.oc cfg.coerce cfg.lenPid cfg.fields x := by
  obtain ⟨g1, g2⟩ := nGate_exec o cfg x { env := {}, tr := [] } (nArity :: nTail wrapped aw)
  obtain ⟨p, hp⟩ : ∃ p, ntuplePre o cfg.vid cfg.coerce cfg.lenPid cfg.fields.length x = p := ⟨_, rfl⟩
  rw [ntupleStep, hp]
  cases ntuplePre_eq_iff.mp hp with
  | rej hg => rw [g1 _ _ hg]; rfl
  | noLen hg hl =>
    obtain ⟨st', h1, h2, h3⟩ := g2 _ _ hg
    rw [h1, (nArity_exec o cfg x st' _ h2 _).1 hl, h3]; rfl
  | arity hg hl hn =>
    obtain ⟨st', h1, h2, h3⟩ := g2 _ _ hg
    rw [h1, (nArity_exec o cfg x st' _ h2 _).2.1 _ hl hn, h3]; rfl
  | noItems hg hl hi | pass hg hl hi =>
    obtain ⟨st', h1, h2, h3⟩ := g2 _ _ hg
    rw [h1, (nArity_exec o cfg x st' _ h2 _).2.2 hl, nTail_exec o cfg x wrapped aw hw st' _ h2, hi, h3]; rfl

/-- **the synchronous n-tuple validator, as written in the source, is the model's `ntupleStep`** -/
theorem src_ntuple_sync (o : Oracle) (cfg : NTupCfg) (x : PyVal) :
    runNTupleMethod o cfg Src.ntupleSync x = ntupleStep o cfg.vid cfg.oc cfg.coerce cfg.lenPid cfg.fields x := by
  rw [runNTupleMethod_eq, ntupleSync_eq]
  exact src_ntuple_generic o cfg x .wrappedSync false (.inl rfl)

/-- **the asynchronous n-tuple validator, as written in the source, is the model's `ntupleStep`** -/
theorem src_ntuple_async (o : Oracle) (cfg : NTupCfg) (x : PyVal) :
    runNTupleMethod o cfg Src.ntupleAsync x = ntupleStep o cfg.vid cfg.oc cfg.coerce cfg.lenPid cfg.fields x := by
  rw [runNTupleMethod_eq, ntupleAsync_eq]
  exact src_ntuple_generic o cfg x .wrappedAsync true (.inr rfl)

/-- `_len_predicate = ExactItemCount(len(fields))`; every slot validator is wrapped once, by `_wrap_sync_validator` /
    `_wrap_async_validator` (whose text is pinned by `src_list_wraps`) -/
theorem src_ntuple_init : Src.ntupleInit =
    "self.fields = fields ; self.validate_object = validate_object ; self.coerce = coerce ; self._len_predicate: Predicate[Tuple[Any, ...]] = ExactItemCount(len(fields)) ; self._wrapped_fields_sync = [_wrap_sync_validator(v) for v in fields] ; self._wrapped_fields_async = [_wrap_async_validator(v) for v in fields]" := rfl

/-! ### non-vacuity: `NTupleValidator.typed(fields=(IntValidator(), StringValidator()))` on `[1, 2]` (default coercer) -/

example : runNTupleMethod default
      ⟨1, [fun y => some (scalarStep default .sync 2 .int none [] [] [] y),
           fun y => some (scalarStep default .sync 3 .str none [] [] [] y)], some .dflt, none, 9⟩ Src.ntupleSync
      (.list 7 [.int 1, .int 2]) =
    some (.invalid (.mk (.index [1]) (.tuple 0 [.int 1, .int 2]) 1 [.mk (.type .str) (.int 2) 3 []]), []) := by
  rw [src_ntuple_sync]; rfl

end Koda
