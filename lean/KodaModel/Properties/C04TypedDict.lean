/-
  C04 — `TypedDictValidator` *as written in /repo's current source*.

  `Generated/DictAnySrc.lean` (regenerated on every run) also holds the translation of
  `TypedDictValidator._validate_to_tuple` and `_validate_to_tuple_async` (koda_validate/typeddict.py).  Interpreting them
  is the model's `recordStep` for the `typeddict` kind, for every schema, policy, whole-object check, coercer whose result
  is a dict, and input: exact `dict` (or what the coercer returns), undeclared keys first, every declared key, the payload
  dict, the whole-object check(s) - every later stage holding the *coerced* value.
-/
import KodaModel.Properties.C04DictAny

namespace Koda

def DictAnyCfg.toTD (c : DictAnyCfg) : RecCfg :=
  { kind := .typeddict, keys := c.keys, reqs := c.reqs, cls := c.cls, fieldNames := [], defaults := [], intoId := 0,
    into := fun _ => .none, oc := c.oc, aoc := c.aoc, failUnknown := c.failUnknown, coerce := c.coerce }

/-- the gate, with the oracle-free reading of the coercer call -/
def tdGate (cfg : DictAnyCfg) (x : PyVal) : Gate :=
  match cfg.coerce with
  | some c => applyCoerce default .dict .dict cfg.cls c x
  | none => if x.ty = .dict then .acc x [] else .rej (.type .dict) []

theorem applyCoerce_dict_oracle (o : Oracle) (cls : ClassId) (c : CoerceK) (x : PyVal) :
    applyCoerce o .dict .dict cls c x = applyCoerce default .dict .dict cls c x := by
  cases c <;> simp [applyCoerce, defaultCoerce]

theorem recGate_td (o : Oracle) (cfg : DictAnyCfg) (x : PyVal) : recGate o cfg.toTD x = tdGate cfg x := by
  simp only [recGate, DictAnyCfg.toTD, tdGate]
  cases cfg.coerce with
  | none => rfl
  | some c => exact applyCoerce_dict_oracle o cfg.cls c x

def tGate : DStmt :=
  coerceGate [.ite (.typeIs .data .dictTy) [.assign .coercedVal .data]
    [.ret (.pair (.bool false) (.mkInvalid (.mkTypeErr .dictTy) .data .self))]]

def tScan : DStmt := kScan (.var .coercedVal)

def tLoopBody (aw : Bool) : List DStmt := sLoopBody (.var .coercedVal) aw

def tLoop (m : Mode) : DStmt := kLoop m tLoopBody

def tFinal (m : Mode) : DStmt :=
  .ite (.var .errs) (retKeys (.var .coercedVal))
    [.ite (chk false .result .successDict) (retC .result .successDict) (aocPart m .asyncResult .successDict),
     retOk .successDict]

def tBody (m : Mode) (gate fin : DStmt) : List DStmt :=
  [gate, tScan, .assign .successDict .emptyDict, .assign .errs .emptyDict, tLoop m, fin]

theorem typedDictSync_eq : Src.typedDictSync = dGuard :: tBody .sync tGate (tFinal .sync) := rfl
theorem typedDictAsync_eq : Src.typedDictAsync = tBody .async tGate (tFinal .async) := rfl

theorem tGate_exec (cfg : DictAnyCfg) (x : PyVal) : GateOK cfg x [tGate] (.var .coercedVal) (tdGate cfg x) := by
  refine coerceGate_ok cfg x _ _ (fun hc => ?_) (fun c hc => by rw [tdGate, hc])
  rw [tdGate, hc]
  exact dictElse_ok cfg x _ _ fun _ => retInvalid_ok cfg x _ _ _ fun _ => rfl

theorem tforFold_scan (cfg : DictAnyCfg) (x y : PyVal) (ks : List PyVal) (st : DSt) (hcv : st.env.coercedVal = .py y) :
    ScanSim cfg x (.var .coercedVal) y ks st :=
  kforFold_scan cfg x (.var .coercedVal) y ks st (denotes_coercedVal cfg x y st hcv)

theorem tScan_exec (cfg : DictAnyCfg) (x y : PyVal) (st : DSt) (rest : List DStmt) (kvs : List (PyVal × PyVal))
    (hx : dictItems y = some kvs) (hcv : st.env.coercedVal = .py y) : ScanOK cfg x (.var .coercedVal) y st rest kvs :=
  kScan_exec cfg x (.var .coercedVal) y st rest kvs hx (denotes_coercedVal cfg x y st hcv)

theorem tLoopBody_step (cfg : DictAnyCfg) (x y : PyVal) (aw : Bool) (data : List (PyVal × PyVal)) (hy : dictItems y = some data) :
    StepOK cfg.vid y data (SInv cfg x (.var .coercedVal) y []) (fun st => DStmt.execL cfg x st (tLoopBody aw)) :=
  sLoopBody_step cfg x (.var .coercedVal) aw y data hy []

theorem tforFold3_keys (cfg : DictAnyCfg) (x y : PyVal) (aw : Bool) (data : List (PyVal × PyVal)) (hy : dictItems y = some data) :
    LoopOK cfg.vid y data (SInv cfg x (.var .coercedVal) y []) (fun st => DStmt.execL cfg x st (tLoopBody aw)) :=
  dforFold3_recLoop cfg.vid y data _ _ (tLoopBody_step cfg x y aw data hy)

theorem tFinal_keys (cfg : DictAnyCfg) (x y : PyVal) (m : Mode) :
    KeysFin cfg x y (SInv cfg x (.var .coercedVal) y []) [tFinal m] :=
  fun st _ es hne hinv => outD_keysInvalid cfg x st (.var .coercedVal) y es _ _ hinv.er hne (hinv.rd st rfl)

theorem tFinal_ok (cfg : DictAnyCfg) (x y : PyVal) (m : Mode) (st : DSt) (got : List (Option PyVal))
    (hinv : SInv cfg x (.var .coercedVal) y [] st (cfg.keys.zip got) []) :
    outD (DStmt.execL cfg x st [tFinal m]) = some (finishChecks m cfg (recBuild cfg.toTD got) st.tr) := by
  obtain ⟨_, her, sd, hsd, hex⟩ := hinv
  rw [tFinal, dexecL_ifErrs cfg x st [] _ _ _ her]
  exact checks_exec cfg x m .result .asyncResult .successDict st _ _ (fun _ _ => rfl) (fun _ _ => rfl)
    (hsd.trans (congrArg AV.dictPayload (hex rfl))) (.dict _)

/-- shared with `DataclassValidator` and `NamedTupleValidator` (`rc`, `fin`) -/
theorem tTail_exec (cfg : DictAnyCfg) (x y : PyVal) (m : Mode) (rc : RecCfg) (hoc : rc.oc = cfg.oc) (haoc : rc.aoc = cfg.aoc)
    (hti : (if rc.kind = .record then [Ev.into rc.intoId] else []) = []) (fin : DStmt)
    (hkeys : KeysFin cfg x y (SInv cfg x (.var .coercedVal) y []) [fin])
    (hok : ∀ (st : DSt) (got : List (Option PyVal)), SInv cfg x (.var .coercedVal) y [] st (cfg.keys.zip got) [] →
      outD (DStmt.execL cfg x st [fin]) = some (finishChecks m cfg (recBuild rc got) st.tr))
    (st : DSt) (data : List (PyVal × PyVal)) (hy : dictItems y = some data) (hrd : Denotes cfg x (.var .coercedVal) y st) :
    outD (DStmt.execL cfg x st [.assign .successDict .emptyDict, .assign .errs .emptyDict, tLoop m, fin]) =
      recRest cfg m rc y data st.tr := by
  rw [dexecL_assign_cons cfg x st _ _ _ _ _ rfl, dexecL_assign_cons cfg x _ _ _ _ _ _ rfl]
  exact kTail_exec cfg x m rc hoc haoc [] hti y data tLoopBody [fin] _ (tLoopBody_step cfg x y (awOf m) data hy) hkeys
    (fun st1 got _ hi => by rw [hok st1 got hi, List.append_nil]) _ ⟨hrd.frame rfl, rfl, Pay.exact _ rfl⟩

theorem tdGate_noexn (cfg : DictAnyCfg) (x : PyVal) (e : Exn) (t : List Ev) : tdGate cfg x ≠ .exn e t := by
  rw [← recGate_td default]
  exact (recGate_wf default cfg.toTD x).ne_exn e t

/-- `hdict`: what the coercer returns is a dict (the model's completion for other values - `TypeError`
    before anything is looked at - is not what Python does for, say, a list) -/
theorem src_typeddict_generic (o : Oracle) (cfg : DictAnyCfg) (x : PyVal) (m : Mode)
    (hdict : ∀ y t, tdGate cfg x = .acc y t → (dictItems y).isSome = true) :
    outD (DStmt.execL cfg x { env := {}, tr := [] } (guardOf m ++ tBody m tGate (tFinal m))) =
      recordStep o m cfg.vid cfg.toTD cfg.evs x := by
  refine recMethod_exec cfg x o m cfg.toTD rfl rfl rfl rfl [tGate] (.var .coercedVal) _ ?_ ?_ fun st y data hy hrd =>
    tTail_exec cfg x y m cfg.toTD rfl rfl rfl (tFinal m) (tFinal_keys cfg x y m) (tFinal_ok cfg x y m) st data hy hrd
  · rw [recGate_td]; exact tGate_exec cfg x
  · rw [recGate_td]; exact hdict

/-- **the synchronous `TypedDictValidator`, as written in the source, is the model's `recordStep`** -/
theorem src_typeddict_sync (o : Oracle) (cfg : DictAnyCfg) (x : PyVal)
    (hdict : ∀ y t, tdGate cfg x = .acc y t → (dictItems y).isSome = true) :
    runDictAnyMethod cfg Src.typedDictSync x = recordStep o .sync cfg.vid cfg.toTD cfg.evs x := by
  rw [runDictAnyMethod_eq, typedDictSync_eq]
  exact src_typeddict_generic o cfg x .sync hdict

/-- **the asynchronous `TypedDictValidator`, as written in the source, is the model's `recordStep`** -/
theorem src_typeddict_async (o : Oracle) (cfg : DictAnyCfg) (x : PyVal)
    (hdict : ∀ y t, tdGate cfg x = .acc y t → (dictItems y).isSome = true) :
    runDictAnyMethod cfg Src.typedDictAsync x = recordStep o .async cfg.vid cfg.toTD cfg.evs x := by
  rw [runDictAnyMethod_eq, typedDictAsync_eq]
  exact src_typeddict_generic o cfg x .async hdict

/-- with no coercer (the default) the side condition holds outright -/
theorem tdGate_dict_of_no_coercer (cfg : DictAnyCfg) (x : PyVal) (hc : cfg.coerce = none) :
    ∀ y t, tdGate cfg x = .acc y t → (dictItems y).isSome = true := by
  intro y t h
  rw [tdGate, hc] at h
  exact dictGate_items x y t h

/-! ### non-vacuity: a TypedDict `{"a": int, "b": NotRequired[str]}` on `{"a": 1, "zz": 2}` with unknown keys forbidden -/

example : runDictAnyMethod
      { vid := 1, keys := [.str [97], .str [98]],
        evs := [fun y => some (scalarStep default .sync 2 .int none [] [] [] y), fun y => some (scalarStep default .sync 3 .str none [] [] [] y)],
        reqs := [true, false], oc := none, aoc := none, failUnknown := true }
      Src.typedDictSync (.dict 9 [(.str [97], .int 1), (.str [122, 122], .int 2)]) =
    some (.invalid (.mk (.extraKeys [.str [97], .str [98]]) (.dict 9 [(.str [97], .int 1), (.str [122, 122], .int 2)]) 1 []), []) := by
  rw [src_typeddict_sync default _ _ (tdGate_dict_of_no_coercer _ _ rfl)]; rfl

end Koda
