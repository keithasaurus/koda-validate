/-
  C14 — Every error node names the validator that rejected and the value it examined.

  `C14_root`: for every tree, input, mode and fuel, the root of a returned error tree names the
  responsible validator (transparent wrappers name the validator they wrap) and — for type, coercion,
  union and container errors — holds the caller's own object (equality of `PyVal` includes the object
  identities `oid`).  The children of an error node are the children's *own* `Invalid`s on the
  elements / fields they were given, so the statement propagates to every node (`Properties/C14Tree`).
-/
import KodaModel.Lemmas.Raises

namespace Koda

/-- error kinds produced before any coercion or preprocessing has been applied -/
def ErrK.early : ErrK → Bool
  | .type _ => true
  | .coercion _ _ => true
  | .union => true
  | .container => true
  | _ => false

/-- `Names env v i`: `i` is the identity of the validator responsible for `v`'s own failures —
    `v` itself, or, for a transparent wrapper, the validator it stands for -/
inductive Names (env : Nat → V) : V → Nat → Prop
  | user {vid inner i} : Names env inner i → Names env (.user vid inner) i
  | lazy {vid ref i} : Names env (env ref) i → Names env (.lazy vid ref) i
  | knr {vid inner i} : Names env inner i → Names env (.knr vid inner) i
  | self (v : V) : (∀ a b, v ≠ .user a b) → (∀ a b, v ≠ .lazy a b) → (∀ a b, v ≠ .knr a b) → Names env v v.vid

def V.wraps : V → Bool
  | .user .. | .lazy .. | .knr .. => true
  | _ => false

theorem Names.of_not_wraps {env : Nat → V} (v : V) (h : v.wraps = false) : Names env v v.vid :=
  .self v (by rintro a b rfl; cases h) (by rintro a b rfl; cases h) (by rintro a b rfl; cases h)

def Prov (env : Nat → V) (v : V) (ev : Ev1) : Prop :=
  ∀ x e t, ev x = some (.invalid e, t) → Names env v e.vid ∧ (e.kind.early = true → e.value = x)

theorem Gate.Wf.rej_early {k : ErrK} {t : List Ev} (h : (Gate.rej k t).Wf) : k.early = true := by
  cases h <;> rfl

theorem gate_rej_early {o tg d c x k t} (h : gate o tg d c x = .rej k t) : k.early = true :=
  (gate_eq_wf h).rej_early

theorem recGate_rej_early {o cfg x k t} (h : recGate o cfg x = .rej k t) : k.early = true :=
  (recGate_eq_wf h).rej_early

/-- an error node `vid` reports on `x` without consulting a child -/
def OwnLeaf (vid : Nat) (x : PyVal) (e : Inv) : Prop :=
  e.vid = vid ∧ (e.kind.early = true → e.value = x) ∧ e.children = []

theorem not_early {e : Inv} {x : PyVal} (h : e.kind.early = false) : e.kind.early = true → e.value = x :=
  fun he => by rw [h] at he; cases he

theorem OwnLeaf.early {vid : Nat} {x : PyVal} (k : ErrK) : OwnLeaf vid x (.mk k x vid []) := ⟨rfl, fun _ => rfl, rfl⟩

theorem OwnLeaf.late {vid : Nat} {x y : PyVal} {k : ErrK} (hk : k.early = false) : OwnLeaf vid x (.mk k y vid []) :=
  ⟨rfl, not_early hk, rfl⟩

theorem OwnLeaf.node {vid : Nat} {x : PyVal} {e : Inv} (h : OwnLeaf vid x e) (P : Inv → Prop) :
    e.vid = vid ∧ (e.kind.early = true → e.value = x) ∧ ∀ c' ∈ e.children, P c' :=
  ⟨h.1, h.2.1, by rw [h.2.2]; nofun⟩

theorem ContPre.invalid {α gateTy destTy} {items : PyVal → Option α} {exn o m vid ps aps c x e t}
    (h : ContPre gateTy destTy items exn o m vid ps aps c x (.inl (.invalid e, t))) : OwnLeaf vid x e := by
  cases h with
  | rej => exact .early _
  | predFail => exact .late rfl

theorem NtuplePre.invalid {o vid c lp n x e t} (h : NtuplePre o vid c lp n x (.inl (.invalid e, t))) : OwnLeaf vid x e := by
  cases h with
  | rej => exact .early _
  | arity => exact .late rfl

theorem RecPre.invalid {o m vid cfg x e t}
    (h : RecPre o m vid cfg x (.inl (.invalid e, t))) : OwnLeaf vid x e := by
  cases h with
  | rej => exact .early _
  | unknown => exact .late rfl

theorem finishPreds_prov {vid z t q e t'} {x : PyVal} (h : finishPreds vid z t q = (.invalid e, t')) :
    OwnLeaf vid x e := by
  revert h
  fun_cases finishPreds vid z t q <;> intro h <;> cases h
  exact .late rfl

theorem scalarStep_prov {o m vid tg c pre ps aps x e t}
    (h : scalarStep o m vid tg c pre ps aps x = (.invalid e, t)) : OwnLeaf vid x e := by
  revert h
  fun_cases scalarStep o m vid tg c pre ps aps x <;> intro h
  case case3 => cases h; exact .early _
  case case5 => exact finishPreds_prov h
  all_goals cases h

theorem equalsStep_prov {vid mt pre pid x e t} (h : equalsStep vid mt pre pid x = (.invalid e, t)) :
    OwnLeaf vid x e := by
  revert h
  fun_cases equalsStep vid mt pre pid x <;> intro h <;> cases h
  · exact .late rfl
  · exact .early _

theorem noneStep_prov {o vid c x e t} (h : noneStep o vid c x = (.invalid e, t)) : OwnLeaf vid x e := by
  revert h
  fun_cases noneStep o vid c x <;> intro h <;> cases h <;> exact .early _

theorem isDictStep_prov {vid x e t} (h : isDictStep vid x = (.invalid e, t)) : OwnLeaf vid x e := by
  revert h
  fun_cases isDictStep vid x <;> intro h <;> cases h
  exact .early _

theorem finishSeq_prov {k vid y l e} (h : finishSeq k vid y l = .invalid e) :
    e.vid = vid ∧ e.kind.early = false ∧ e.value = y ∧ e.children = l.es.map Prod.snd := by
  revert h
  fun_cases finishSeq k vid y l <;> intro h <;> cases h <;> exact ⟨rfl, rfl, rfl, rfl⟩

theorem seqStep_invalid {k o m vid ps aps c ev x e t} (h : seqStep k o m vid ps aps c ev x = some (.invalid e, t)) :
    e.vid = vid ∧ (e.kind.early = true → e.value = x) ∧
      ∀ c' ∈ e.children, ∃ y t', ev y = some (.invalid c', t') := by
  rcases seqStep_some.1 h with hp | ⟨y, xs, t0, l, _, hl, hf⟩
  · exact (seqPre_eq_iff.1 hp).invalid.node _
  · obtain ⟨h1, h2, _, h4⟩ := finishSeq_prov (Prod.mk.inj hf).1.symm
    refine ⟨h1, not_early h2, fun c' hc' => ?_⟩
    rw [h4] at hc'
    obtain ⟨p, hp, rfl⟩ := List.mem_map.1 hc'
    exact hl.sources.2 p hp

theorem seqStep_prov {k o m vid ps aps c ev x e t} (h : seqStep k o m vid ps aps c ev x = some (.invalid e, t)) :
    e.vid = vid ∧ (e.kind.early = true → e.value = x) :=
  ⟨(seqStep_invalid h).1, (seqStep_invalid h).2.1⟩

theorem runObjCheck_prov {oc vid obj e} {x : PyVal} (h : (runObjCheck oc vid obj).1 = .invalid e) :
    OwnLeaf vid x e := by
  revert h
  fun_cases runObjCheck oc vid obj <;> intro h <;> cases h
  exact .late rfl

theorem ntupleStep_invalid {o vid oc c lp evs x e t} (h : ntupleStep o vid oc c lp evs x = some (.invalid e, t)) :
    e.vid = vid ∧ (e.kind.early = true → e.value = x) ∧
      ∀ c' ∈ e.children, ∃ ev ∈ evs, ∃ y t', ev y = some (.invalid c', t') := by
  rcases ntupleStep_some.1 h with hp | ⟨y, xs, t0, l, _, hl, hf⟩
  · exact (ntuplePre_eq_iff.1 hp).invalid.node _
  · unfold ntupleFinish at hf
    split at hf
    · cases hf
    · split at hf
      · cases hf
        refine ⟨rfl, nofun, fun c' hc' => ?_⟩
        obtain ⟨p, hp, rfl⟩ := List.mem_map.1 hc'
        exact hl.sources.2 p hp
      · exact (runObjCheck_prov (Prod.mk.inj hf).1.symm).node _

theorem ntupleStep_prov {o vid oc c lp evs x e t} (h : ntupleStep o vid oc c lp evs x = some (.invalid e, t)) :
    e.vid = vid ∧ (e.kind.early = true → e.value = x) :=
  ⟨(ntupleStep_invalid h).1, (ntupleStep_invalid h).2.1⟩

theorem mapStep_invalid {o m vid ps aps c evk evv x e t}
    (h : mapStep o m vid ps aps c evk evv x = some (.invalid e, t)) :
    e.vid = vid ∧ (e.kind.early = true → e.value = x) ∧
      ∀ c' ∈ e.children, ∃ y t', evk y = some (.invalid c', t') ∨ evv y = some (.invalid c', t') := by
  rcases mapStep_some.1 h with hp | ⟨y, kvs, t0, l, _, hl, hf⟩
  · exact (mapPre_eq_iff.1 hp).invalid.node _
  · unfold mapFinish at hf
    split at hf
    · cases hf
    · split at hf
      · cases hf
      · cases hf; exact ⟨rfl, nofun, hl.sources.2⟩

theorem mapStep_prov {o m vid ps aps c evk evv x e t}
    (h : mapStep o m vid ps aps c evk evv x = some (.invalid e, t)) :
    e.vid = vid ∧ (e.kind.early = true → e.value = x) :=
  ⟨(mapStep_invalid h).1, (mapStep_invalid h).2.1⟩

theorem runAObjCheck_prov {m aoc vid obj e} {x : PyVal} (h : (runAObjCheck m aoc vid obj).1 = .invalid e) :
    OwnLeaf vid x e := by
  revert h
  fun_cases runAObjCheck m aoc vid obj <;> intro h <;> cases h
  exact .late rfl

/-- the leaf a record-shaped validator writes for an absent required key -/
def IsMissingLeaf (c : Inv) : Prop := ∃ dv vid, c = .mk .missingKey dv vid []

theorem recordStep_invalid {o m vid cfg evs x e t} (h : recordStep o m vid cfg evs x = some (.invalid e, t)) :
    e.vid = vid ∧ (e.kind.early = true → e.value = x) ∧
      ∀ c' ∈ e.children, (∃ ev ∈ evs, ∃ y t', ev y = some (.invalid c', t')) ∨ IsMissingLeaf c' := by
  rcases recordStep_some.1 h with hp | ⟨y, data, t0, l, _, hl, hf⟩
  · exact (recPre_eq_iff.1 hp).invalid.node _
  · unfold recFinish at hf
    split at hf
    · cases hf
    · split at hf
      · cases hf
        exact ⟨rfl, nofun, fun c' hc' => (hl.sources.2 c' hc').imp_right fun h => ⟨_, _, h⟩⟩
      · simp only at hf
        split at hf
        · exact (runAObjCheck_prov (Prod.mk.inj hf).1.symm).node _
        · exact (runObjCheck_prov (Prod.mk.inj hf).1.symm).node _

theorem recordStep_prov {o m vid cfg evs x e t} (h : recordStep o m vid cfg evs x = some (.invalid e, t)) :
    e.vid = vid ∧ (e.kind.early = true → e.value = x) :=
  ⟨(recordStep_invalid h).1, (recordStep_invalid h).2.1⟩

theorem unionStep_invalid {vid evs x e t} (h : unionStep vid evs x = some (.invalid e, t)) :
    e.vid = vid ∧ (e.kind.early = true → e.value = x) ∧
      ∀ c' ∈ e.children, ∃ ev ∈ evs, ∃ t', ev x = some (.invalid c', t') := by
  obtain ⟨⟨w, es, t', r⟩, hl, hf⟩ := unionStep_some.1 h
  cases r with
  | some e' => cases hf
  | none =>
    cases w with
    | some w => cases hf
    | none => cases hf; exact ⟨rfl, fun _ => rfl, hl.sources.2⟩

theorem unionStep_prov {vid evs x e t} (h : unionStep vid evs x = some (.invalid e, t)) :
    e.vid = vid ∧ (e.kind.early = true → e.value = x) :=
  ⟨(unionStep_invalid h).1, (unionStep_invalid h).2.1⟩

theorem maybeStep_invalid {vid ev x e t} (h : maybeStep vid ev x = some (.invalid e, t)) :
    e.vid = vid ∧ (e.kind.early = true → e.value = x) ∧
      ∀ c' ∈ e.children, ∃ v t', ev v = some (.invalid c', t') := by
  rcases maybeStep_cases x with ⟨oid, v, rfl⟩ | hx | hx
  · rw [maybeStep_just] at h
    obtain ⟨⟨out, t0⟩, hv, hf⟩ := Option.map_eq_some_iff.1 h
    cases out <;> cases hf
    exact ⟨rfl, fun _ => rfl, fun c' hc' => ⟨v, t0, by rw [List.mem_singleton.1 hc']; exact hv⟩⟩
  · rw [hx] at h; cases h
  · rw [hx] at h; cases h; exact ⟨rfl, fun _ => rfl, nofun⟩

theorem maybeStep_prov {vid ev x e t} (h : maybeStep vid ev x = some (.invalid e, t)) :
    e.vid = vid ∧ (e.kind.early = true → e.value = x) :=
  ⟨(maybeStep_invalid h).1, (maybeStep_invalid h).2.1⟩

/-- **C14 at the root of every error tree**, for every validator tree, input, mode and fuel -/
theorem C14_root (o : Oracle) (env : Nat → V) (m : Mode) :
    ∀ n v, Prov env v (run o env m n v) := by
  intro n
  induction n with
  | zero => intro v x e t h; cases h
  | succ n ih =>
    intro v x e t h
    have self : ∀ (w : V), w.wraps = false → e.vid = w.vid ∧ (e.kind.early = true → e.value = x) →
        Names env w e.vid ∧ (e.kind.early = true → e.value = x) :=
      fun w hw he => ⟨he.1 ▸ Names.of_not_wraps w hw, he.2⟩
    have own : ∀ {vid}, OwnLeaf vid x e → e.vid = vid ∧ (e.kind.early = true → e.value = x) :=
      fun h => ⟨h.1, h.2.1⟩
    cases v with
    | scalar vid tg c pre ps aps => exact self _ rfl (own (scalarStep_prov (Option.some.inj h)))
    | equals vid mt pre pid => exact self _ rfl (own (equalsStep_prov (Option.some.inj h)))
    | noneV vid c => exact self _ rfl (own (noneStep_prov (Option.some.inj h)))
    | always vid => cases h
    | isDict vid => exact self _ rfl (own (isDictStep_prov (Option.some.inj h)))
    | list vid item ps aps c | set vid item ps aps c | utuple vid item ps aps c =>
      exact self _ rfl (seqStep_prov h)
    | ntuple vid fs oc c lp => exact self _ rfl (ntupleStep_prov h)
    | map vid kv vv ps aps c => exact self _ rfl (mapStep_prov h)
    | record vid cfg vs => exact self _ rfl (recordStep_prov h)
    | union vid vs => exact self _ rfl (unionStep_prov h)
    | optional vid nv inner => exact self _ rfl (unionStep_prov h)
    | maybe vid inner => exact self _ rfl (maybeStep_prov h)
    | «lazy» vid ref =>
      obtain ⟨a, b⟩ := ih _ x e t h
      exact ⟨.lazy a, b⟩
    | knr vid inner =>
      rw [run, knrStep_eq] at h
      obtain ⟨⟨out, t0⟩, hx, hf⟩ := Option.map_eq_some_iff.1 h
      cases out <;> cases hf
      obtain ⟨a, b⟩ := ih inner x _ t0 hx
      exact ⟨.knr a, b⟩
    | user vid inner =>
      rw [run, userStep_eq] at h
      obtain ⟨⟨out, t0⟩, hx, hf⟩ := Option.map_eq_some_iff.1 h
      cases hf
      obtain ⟨a, b⟩ := ih inner x e t0 hx
      exact ⟨.user a, b⟩

/-- later stages hold the coerced / constructed value: e.g. a list's element errors hold the
    coerced container the gate produced (not the raw input) -/
theorem C14_list_later_stage (o : Oracle) (m : Mode) (vid : Nat) (ps aps : List Pred) (c : Option CoerceK)
    (ev : Ev1) (x y : PyVal) (xs : List PyVal) (t0 : List Ev)
    (hp : seqPre .list o m vid ps aps c x = .inr (y, xs, t0)) (e : Inv) (t : List Ev)
    (h : seqStep .list o m vid ps aps c ev x = some (.invalid e, t)) : e.value = y := by
  rcases seqStep_some.1 h with hp' | ⟨y', xs', t0', l, hp', _, hf⟩
  · rw [hp] at hp'; cases hp'
  · rw [hp] at hp'; cases hp'
    exact (finishSeq_prov (Prod.mk.inj hf).1.symm).2.2.1

/-- non-vacuity: a user wrapper around a list validator — the error names the *list* validator (2),
    not the wrapper (1), and holds the caller's own object (oid 77) -/
example :
    (run default (fun _ => .always 0) .sync 4 (.user 1 (.list 2 (.always 0) [] [] none)) (.tuple 77 [])).map
      (fun r => match r.1 with | .invalid e => (e.vid, e.value) | _ => (0, .none)) = some (2, .tuple 77 []) := by rfl

end Koda
