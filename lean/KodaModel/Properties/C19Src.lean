/-
  C19, tied to the source: **whatever the validation methods of a validator class depend on is compared by its
  `__eq__`**.

  `Generated/CongrSrc.lean` is rewritten on every run: for each validator class, `harness/pysrc.py` collects the attributes
  its validation methods (`__call__`, `validate_async`, `_validate_to_tuple`, `_validate_to_tuple_async`) read, the
  attributes its `__eq__` compares (for a `@dataclass`: its fields), and — by a conservative dependency analysis of
  `__init__` (data and control dependences through locals, loops, `.append` / `.add`) — the constructor parameters each
  attribute's value depends on.  The obligation below says that every parameter the behaviour depends on is one some
  compared attribute depends on; so two instances that `__eq__` identifies were built from parameters that are equal
  wherever behaviour can see them.  A change that drops a comparison from an `__eq__`, or makes a method read a new,
  uncompared attribute, no longer checks.  (The analysis is part of the translator, hence of the trusted base; that equal
  parameters give equal behaviour is the model-level `C19_rename` plus the correspondence.)
-/
import KodaModel.Generated.CongrSrc

namespace Koda

/-- every constructor parameter (or class attribute) the validation methods depend on is covered by `__eq__` -/
theorem C19_src_reads_compared :
    Src.congr.all (fun c => c.2.1.all (fun p => c.2.2.contains p)) = true := by decide +kernel

/-- the classes this is established for -/
theorem C19_src_classes : Src.congr.map (·.1) =
    ["_ToTupleStandardValidator", "ListValidator", "SetValidator", "UniformTupleValidator", "NTupleValidator", "MapValidator",
     "RecordValidator", "DictValidatorAny", "DataclassValidator", "NamedTupleValidator", "TypedDictValidator", "UnionValidator",
     "OptionalValidator", "NoneValidator", "MaybeValidator", "Lazy", "EqualsValidator", "KeyNotRequired"] := rfl

/-- none of them compares by identity only (an empty list of compared dependencies) -/
theorem C19_src_compares_something : Src.congr.all (fun c => !c.2.2.isEmpty) = true := by decide +kernel

/-- **predicates and processors**: every `Predicate` / `Processor` class is a `@dataclass` whose `==` is the generated
    one (no `__eq__` / `__ne__` / `__hash__` of its own, no `eq=False`), so it compares exactly the fields; its methods
    read nothing of `self` but those fields, and none of them (the constructor aside) stores to `self`.  Two predicates
    that compare equal therefore have equal fields, which is all their `__call__` can see.  (`RegexPredicate.__eq__`
    compares the compiled pattern object: text *and* flags — seeded change C19-s replaced it by an `__eq__` on the text
    and no longer checks here.) -/
theorem C19_src_preds_compared :
    Src.predCongr.all (fun c => c.2.1 && c.2.2.1 && c.2.2.2.1.all (fun a => c.2.2.2.2.contains a)) = true := by decide +kernel

/-- the predicate / processor classes this is established for: all that `Generated/PredSrc.lean` lists -/
theorem C19_src_pred_classes : Src.predCongr.map (·.1) =
    ["Choices", "EmailPredicate", "EndsWith", "EqualTo", "ExactItemCount", "ExactLength", "LowerCase", "Max", "MaxItems",
     "MaxKeys", "MaxLength", "Min", "MinItems", "MinKeys", "MinLength", "MultipleOf", "NotBlank", "RegexPredicate",
     "StartsWith", "Strip", "UniqueItems", "UpperCase"] := rfl

end Koda
