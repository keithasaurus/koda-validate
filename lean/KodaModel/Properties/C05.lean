/-
  C05 — Unions pick the first match and list all failures; wrappers are transparent.

  Child evaluators are *arbitrary* (`Ev1`), so every statement holds for built-in and user-written
  children, in both modes, at every nesting position.
-/
import KodaModel.Properties.C02
import KodaModel.Properties.C03

namespace Koda

/-- every evaluator of the list rejects `x`; `es` are their errors in order, `t` the concatenated trace -/
inductive AllReject (x : PyVal) : List Ev1 → List Inv → List Ev → Prop
  | nil : AllReject x [] [] []
  | cons {ev evs e es t t'} : ev x = some (.invalid e, t) → AllReject x evs es t' →
      AllReject x (ev :: evs) (e :: es) (t ++ t')

/-- **first match wins, later variants are not consulted**: if the variants before `ev` reject and
    `ev` accepts with payload `w`, the union returns `w` — for *any* list `post` of later variants
    (even ones that would not terminate), and its trace contains nothing from them. -/
theorem C05_union_first {x : PyVal} {pre : List Ev1} {es : List Inv} {t : List Ev}
    (hpre : AllReject x pre es t) {ev : Ev1} {w : PyVal} {tw : List Ev}
    (hev : ev x = some (.valid w, tw)) (post : List Ev1) (vid : Nat) :
    unionStep vid (pre ++ ev :: post) x = some (.valid w, t ++ tw) := by
  have : unionLoop x (pre ++ ev :: post) = some (some w, es, t ++ tw, none) := by
    induction hpre with
    | nil => simp [unionLoop, hev]
    | cons h _ ih => simp [unionLoop, h, ih, List.append_assoc]
  simp [unionStep, this]

/-- **every failure is listed, in order**: if all variants reject, the union rejects with a
    `UnionErrs` holding each variant's own error, the input itself, and the union's identity. -/
theorem C05_union_all_errs {x : PyVal} {evs : List Ev1} {es : List Inv} {t : List Ev}
    (h : AllReject x evs es t) (vid : Nat) :
    unionStep vid evs x = some (.invalid (.mk .union x vid es), t) := by
  have : unionLoop x evs = some (none, es, t, none) := by
    induction h with
    | nil => simp [unionLoop]
    | cons h _ ih => simp [unionLoop, h, ih]
  simp [unionStep, this]

theorem UnionL.inv {x : PyVal} {evs : List Ev1} {ow es t} (h : UnionL x evs (ow, es, t, none)) :
    (ow = none → AllReject x evs es t) ∧
    ∀ w, ow = some w → ∃ pre ev post t1 tw, evs = pre ++ ev :: post ∧ AllReject x pre es t1 ∧
      ev x = some (.valid w, tw) ∧ t = t1 ++ tw := by
  generalize hq : (ow, es, t, (none : Option Exn)) = q at h
  induction h generalizing es t with
  | nil => cases hq; exact ⟨fun _ => .nil, nofun⟩
  | raised => cases hq
  | @valid ev evs w t hx =>
    cases hq
    exact ⟨nofun, fun _ hw => Option.some.inj hw ▸ ⟨[], ev, evs, [], t, rfl, .nil, hx, rfl⟩⟩
  | @invalid ev evs e t0 ow' es' t' r hx _ ih =>
    cases hq
    refine ⟨fun hn => .cons hx ((ih rfl).1 hn), fun w hw => ?_⟩
    obtain ⟨pre, ev', post, t1, tw, rfl, hr, hv, rfl⟩ := (ih rfl).2 w hw
    exact ⟨ev :: pre, ev', post, t0 ++ t1, tw, rfl, .cons hx hr, hv, (List.append_assoc ..).symm⟩

/-- converse: a union only accepts through a first accepting variant -/
theorem C05_union_valid_inv {x : PyVal} {vid : Nat} {w : PyVal} :
    ∀ {evs : List Ev1} {t : List Ev}, unionStep vid evs x = some (.valid w, t) →
    ∃ pre ev post es t1 tw, evs = pre ++ ev :: post ∧ AllReject x pre es t1 ∧
      ev x = some (.valid w, tw) ∧ t = t1 ++ tw := by
  intro evs t h
  obtain ⟨⟨ow, es, t', r⟩, hl, hp⟩ := unionStep_some.1 h
  cases r with
  | some e => cases hp
  | none =>
    cases ow with
    | none => cases hp
    | some w' =>
      cases hp
      obtain ⟨pre, ev, post, t1, tw, h⟩ := hl.inv.2 w rfl
      exact ⟨pre, ev, post, es, t1, tw, h⟩

/-- converse: a union only rejects when every variant rejected, and then reports all of them -/
theorem C05_union_invalid_inv {x : PyVal} {vid : Nat} :
    ∀ {evs : List Ev1} {e : Inv} {t : List Ev}, unionStep vid evs x = some (.invalid e, t) →
    ∃ es, AllReject x evs es t ∧ e = .mk .union x vid es := by
  intro evs e t h
  obtain ⟨⟨ow, es, t', r⟩, hl, hp⟩ := unionStep_some.1 h
  cases r with
  | some e => cases hp
  | none =>
    cases ow with
    | some w => cases hp
    | none => cases hp; exact ⟨es, hl.inv.1 rfl, rfl⟩

theorem C05_union_run (o : Oracle) (env : Nat → V) (m : Mode) (n vid : Nat) (vs : List V) (x : PyVal) :
    run o env m (n + 1) (.union vid vs) x = unionStep vid (vs.map (run o env m n)) x := rfl

/-- OptionalValidator is the two-variant union (None validator, inner validator) -/
theorem C05_optional_run (o : Oracle) (env : Nat → V) (m : Mode) (n vid : Nat) (nv inner : V) (x : PyVal) :
    run o env m (n + 1) (.optional vid nv inner) x =
      unionStep vid [run o env m n nv, run o env m n inner] x := rfl

/-- Optional accepts `None` as `None` (with the library's None validator) -/
theorem C05_optional_none (o : Oracle) (env : Nat → V) (m : Mode) (n vid nvid : Nat) (inner : V) :
    run o env m (n + 2) (.optional vid (.noneV nvid none) inner) .none = some (.valid .none, []) := rfl

theorem run_noneV_ne (o : Oracle) (env : Nat → V) (m : Mode) (n nvid : Nat) {x : PyVal} (hx : x ≠ .none) :
    run o env m (n + 1) (.noneV nvid none) x = some (.invalid (.mk (.type .none) x nvid []), []) :=
  congrArg some ((C02_none o nvid x).2 hx)

/-- … otherwise it accepts exactly what the inner validator accepts, with the inner payload -/
theorem C05_optional_inner_valid (o : Oracle) (env : Nat → V) (m : Mode) (n vid nvid : Nat) (inner : V)
    (x w : PyVal) (t : List Ev) (hx : x ≠ .none)
    (h : run o env m (n + 1) inner x = some (.valid w, t)) :
    run o env m (n + 2) (.optional vid (.noneV nvid none) inner) x = some (.valid w, t) :=
  C05_union_first (.cons (run_noneV_ne o env m n nvid hx) .nil) h [] vid

/-- … and reports both the None failure and the inner failure when neither applies -/
theorem C05_optional_both_errs (o : Oracle) (env : Nat → V) (m : Mode) (n vid nvid : Nat) (inner : V)
    (x : PyVal) (e : Inv) (t : List Ev) (hx : x ≠ .none)
    (h : run o env m (n + 1) inner x = some (.invalid e, t)) :
    run o env m (n + 2) (.optional vid (.noneV nvid none) inner) x =
      some (.invalid (.mk .union x vid [.mk (.type .none) x nvid [], e]), t) := by
  have := C05_union_all_errs (.cons (run_noneV_ne o env m n nvid hx) (.cons h .nil)) vid
  rwa [List.append_nil] at this

theorem C05_maybe_nothing (vid : Nat) (ev : Ev1) : maybeStep vid ev .nothing = some (.valid .nothing, []) := rfl

theorem C05_maybe_just_valid (vid oid : Nat) (ev : Ev1) (v w : PyVal) (t : List Ev)
    (h : ev v = some (.valid w, t)) : maybeStep vid ev (.just oid v) = some (.valid (.just 0 w), t) := by
  rw [maybeStep_just, h]; rfl

theorem C05_maybe_just_invalid (vid oid : Nat) (ev : Ev1) (v : PyVal) (e : Inv) (t : List Ev)
    (h : ev v = some (.invalid e, t)) :
    maybeStep vid ev (.just oid v) = some (.invalid (.mk .container (.just oid v) vid [e]), t) := by
  rw [maybeStep_just, h]; rfl

/-- anything that is neither `nothing` nor a `Just` is rejected, without consulting the child -/
theorem C05_maybe_other (vid : Nat) (ev : Ev1) (x : PyVal) (h1 : x ≠ .nothing)
    (h2 : ∀ oid v, x ≠ .just oid v) :
    maybeStep vid ev x = some (.invalid (.mk (.type .maybeAny) x vid []), []) := by
  unfold maybeStep
  split
  · exact absurd rfl h1
  · exact absurd rfl (h2 _ _)
  · rfl

/-- a `Lazy` returns exactly what the validator it stands for returns (one unit of fuel later) -/
theorem C05_lazy_run (o : Oracle) (env : Nat → V) (m : Mode) (n vid ref : Nat) (x : PyVal) :
    run o env m (n + 1) (.lazy vid ref) x = run o env m n (env ref) x := rfl

theorem C05_lazy (o : Oracle) (env : Nat → V) (m : Mode) (vid ref : Nat) (x : PyVal) (r : Out)
    (t : List Ev) : Run o env m (.lazy vid ref) x r t ↔ Run o env m (env ref) x r t := by
  constructor
  · rintro ⟨n, hn⟩
    cases n with
    | zero => cases hn
    | succ n => exact ⟨n, hn⟩
  · rintro ⟨n, hn⟩
    exact ⟨n + 1, hn⟩

theorem C05_knr_valid (ev : Ev1) (x w : PyVal) (t : List Ev) (h : ev x = some (.valid w, t)) :
    knrStep ev x = some (.valid (.just 0 w), t) := by
  rw [knrStep_eq, h]; rfl

theorem C05_knr_invalid (ev : Ev1) (x : PyVal) (e : Inv) (t : List Ev) (h : ev x = some (.invalid e, t)) :
    knrStep ev x = some (.invalid e, t) := by
  rw [knrStep_eq, h]; rfl

/-- a user-written wrapper forwarding to `inner` returns `inner`'s outcome (its own entry point is the
    only thing it adds to the trace) -/
theorem C05_user (vid : Nat) (m : Mode) (ev : Ev1) (x : PyVal) (r : Out) (t : List Ev)
    (h : ev x = some (r, t)) : userStep vid m ev x = some (r, .uv vid m :: t) := by
  rw [userStep_eq, h]; rfl

theorem C05_always (o : Oracle) (env : Nat → V) (m : Mode) (n vid : Nat) (x : PyVal) :
    run o env m (n + 1) (.always vid) x = some (.valid x, []) := rfl

/-- `Valid.map` / `Invalid.map` -/
def Out.map (f : PyVal → PyVal) : Out → Out
  | .valid w => .valid (f w)
  | other => other

theorem C05_map_valid (f : PyVal → PyVal) (w : PyVal) : (Out.valid w).map f = .valid (f w) := rfl
theorem C05_map_invalid (f : PyVal → PyVal) (e : Inv) : (Out.invalid e).map f = .invalid e := rfl

/-! ### self-referential definitions over arbitrarily deep finite data

`T = Union[int, List[T]]`, written with `Lazy`: every finite nesting of lists of ints is accepted,
with no bound on the depth. -/

inductive NestedInts : PyVal → Prop
  | leaf (i : Int) : NestedInts (.int i)
  | node (oid : Nat) (xs : List PyVal) : (∀ y ∈ xs, NestedInts y) → NestedInts (.list oid xs)

/-- the recursive definition: `env 0 = Union[int, List[Lazy(env 0)]]` -/
def recEnv : Nat → V
  | _ => .union 10 [.scalar 11 .int none [] [] [], .list 12 (.lazy 13 0) [] [] none]

theorem common_fuel (o : Oracle) (env : Nat → V) (m : Mode) (v : V) (xs : List PyVal)
    (h : ∀ y ∈ xs, ∃ n w, run o env m n v y = some (.valid w, [])) :
    ∃ N, ∀ y ∈ xs, ∃ w, run o env m N v y = some (.valid w, []) := by
  induction xs with
  | nil => exact ⟨0, by simp⟩
  | cons y ys ihs =>
    obtain ⟨N, hN⟩ := ihs (fun z hz => h z (by simp [hz]))
    obtain ⟨n, w, hn⟩ := h y (by simp)
    refine ⟨max N n, ?_⟩
    intro z hz
    simp only [List.mem_cons] at hz
    rcases hz with rfl | hz
    · exact ⟨w, run_mono_le _ _ _ (Nat.le_max_right N n) _ _ _ hn⟩
    · obtain ⟨w', hw'⟩ := hN z hz
      exact ⟨w', run_mono_le _ _ _ (Nat.le_max_left N n) _ _ _ hw'⟩

theorem C05_recursive_terminates (o : Oracle) (m : Mode) (x : PyVal) (hx : NestedInts x) :
    ∃ n w, run o recEnv m n (recEnv 0) x = some (.valid w, []) := by
  induction hx with
  | leaf i =>
    have hs : run o recEnv m 1 (.scalar 11 .int none [] [] []) (.int i) = some (.valid (.int i), []) := by
      cases m <;> rfl
    exact ⟨2, .int i, C05_union_first .nil hs _ 10⟩
  | node oid xs _ ih =>
    obtain ⟨N, hN⟩ := common_fuel o recEnv m (recEnv 0) xs ih
    -- the items are validated through `Lazy`, one unit of fuel further down
    obtain ⟨ws, hws⟩ := ItemsRun.of_all_valid (run o recEnv m (N + 1) (.lazy 13 0)) xs hN 0
    have hs : run o recEnv m (N + 2) (.scalar 11 .int none [] [] []) (.list oid xs) =
        some (.invalid (.mk (.type .int) (.list oid xs) 11 []), []) := by
      cases m <;> rfl
    have hl : run o recEnv m (N + 2) (.list 12 (.lazy 13 0) [] [] none) (.list oid xs) =
        some (.valid (.list 0 ws), []) :=
      (C03_seq_accept_iff .list o m 12 [] [] none _ nofun _ _ _).2
        ⟨_, xs, [], ws, [], seqPre_plain .list o m 12 rfl rfl, hws, rfl, rfl⟩
    exact ⟨N + 3, .list 0 ws, C05_union_first (.cons hs .nil) hl [] 10⟩

/-- a union whose second variant accepts after the first rejected -/
example : run default (fun _ => .always 0) .sync 3
    (.union 1 [.scalar 2 .int none [] [] [], .scalar 3 .str none [] [] []]) (.str [97]) =
    some (.valid (.str [97]), []) := by rfl

example : NestedInts (.list 1 [.int 1, .list 2 [.list 3 [.int 2]]]) := by
  have one {y : PyVal} (h : NestedInts y) : ∀ z ∈ [y], NestedInts z := by simpa using h
  exact .node _ _ (List.forall_mem_cons.2 ⟨.leaf 1, one (.node _ _ (one (.node _ _ (one (.leaf 2)))))⟩)

end Koda
