/-
  C20 — Caching wrappers are transparent over any history of calls.
-/
import KodaModel.Cache

namespace Koda

/-- the wrapped validator respects the store's key equivalence and does not depend on the entry
    point (true of every validator without async-only checks, by C06) -/
def Respects (keq : PyVal → PyVal → Bool) (bare : Mode → PyVal → Out) : Prop :=
  ∀ x y m m', keq x y = true → bare m x = bare m' y

/-- store ⊆ graph of the bare validator -/
def StoreOK (keq : PyVal → PyVal → Bool) (bare : Mode → PyVal → Out) (s : Store) : Prop :=
  ∀ p ∈ s, ∀ x m, keq p.1 x = true → p.2 = bare m x

theorem Store.get_ok {keq bare s} (h : StoreOK keq bare s) (x : PyVal) (m : Mode) (r : Out)
    (hg : Store.get keq s x = some r) : r = bare m x := by
  unfold Store.get at hg
  split at hg
  · rename_i p hp
    simp only [Option.some.injEq] at hg
    subst hg
    exact h p (List.mem_of_find?_eq_some hp) x m (by simpa using List.find?_some hp)
  · simp at hg

theorem Cache.step_ok {keq bare} (hr : Respects keq bare) {s : Store}
    (h : StoreOK keq bare s) (m : Mode) (x : PyVal) :
    (Cache.step keq bare s m x).2.1 = bare m x ∧ StoreOK keq bare (Cache.step keq bare s m x).1 := by
  unfold Cache.step
  cases hg : Store.get keq s x with
  | some r => exact ⟨Store.get_ok h x m r hg, h⟩
  | none =>
    simp only
    split
    · rename_i e he; exact ⟨he.symm, h⟩
    · refine ⟨rfl, ?_⟩
      intro p hp y m' hk
      simp only [Store.set, List.mem_cons] at hp
      rcases hp with rfl | hp
      · exact hr x y m m' hk
      · exact h p hp y m' hk

/-- **transparency over every history**: for every sequence of sync and async calls, each call
    returns exactly what the wrapped validator returns for that input -/
theorem C20_transparent {keq bare} (hr : Respects keq bare) (hrefl : ∀ x, keq x x = true) :
    ∀ (hist : List (Mode × PyVal)) (s : Store), StoreOK keq bare s →
      (Cache.runHist keq bare s hist).2.map Prod.fst = hist.map (fun c => bare c.1 c.2) := by
  intro hist
  induction hist with
  | nil => intro s _; rfl
  | cons c rest ih =>
    intro s hs
    obtain ⟨m, x⟩ := c
    obtain ⟨h1, h2⟩ := Cache.step_ok hr hs m x
    simp only [Cache.runHist, List.map_cons, h1, ih _ h2]

theorem C20_transparent_empty {keq bare} (hr : Respects keq bare) (hrefl : ∀ x, keq x x = true)
    (hist : List (Mode × PyVal)) :
    (Cache.runHist keq bare [] hist).2.map Prod.fst = hist.map (fun c => bare c.1 c.2) :=
  C20_transparent hr hrefl hist [] (by intro p hp; simp at hp)

/-- **runs once per miss, never on a hit; a miss stores exactly the pair it computed** -/
theorem C20_runs (keq : PyVal → PyVal → Bool) (bare : Mode → PyVal → Out) (s : Store) (m : Mode) (x : PyVal) :
    (Store.get keq s x = none → (∀ e, bare m x ≠ .raised e) →
        (Cache.step keq bare s m x).2.2 = [.get m, .run m, .set m] ∧
        (Cache.step keq bare s m x).1 = (x, bare m x) :: s) ∧
    (∀ r, Store.get keq s x = some r →
        (Cache.step keq bare s m x).2.2 = [.get m] ∧ (Cache.step keq bare s m x).1 = s ∧
        (Cache.step keq bare s m x).2.1 = r) := by
  constructor
  · intro h hne
    unfold Cache.step
    simp only [h]
    cases hb : bare m x with
    | raised e => exact absurd hb (hne e)
    | valid w => simp [Store.set]
    | invalid e => simp [Store.set]
  · intro r h; simp [Cache.step, h]

/-- **Invalid results are cached like Valid ones**: after any call on `x`, a second call on an
    equivalent input is a hit, whatever the outcome was -/
theorem C20_second_call_hits (keq : PyVal → PyVal → Bool) (hrefl : ∀ x, keq x x = true)
    (bare : Mode → PyVal → Out) (s : Store) (m m' : Mode) (x : PyVal) (hne : ∀ e, bare m x ≠ .raised e) :
    (Cache.step keq bare (Cache.step keq bare s m x).1 m' x).2.2 = [.get m'] := by
  cases hg : Store.get keq s x with
  | some r => simp [Cache.step, hg]
  | none =>
    have h1 := ((C20_runs keq bare s m x).1 hg hne).2
    rw [h1]
    simp [Cache.step, Store.get, hrefl]

/-- a miss is a call whose log is longer than the lookup alone -/
theorem Cache.step_run_count (keq : PyVal → PyVal → Bool) (bare : Mode → PyVal → Out) (s : Store) (m : Mode) (x : PyVal) :
    ((Cache.step keq bare s m x).2.2.filter (fun e => match e with | .run _ => true | _ => false)).length =
      if (Cache.step keq bare s m x).2.2.length != 1 then 1 else 0 := by
  unfold Cache.step
  cases Store.get keq s x with
  | some r => rfl
  | none => cases bare m x <;> rfl

/-- the number of runs of the wrapped validator over a history equals the number of misses -/
theorem C20_run_count (keq : PyVal → PyVal → Bool) (bare : Mode → PyVal → Out) :
    ∀ (hist : List (Mode × PyVal)) (s : Store),
      ((Cache.runHist keq bare s hist).2.map (fun c => (c.2.filter (fun e => match e with | .run _ => true | _ => false)).length)).sum
        = ((Cache.runHist keq bare s hist).2.filter (fun c => c.2.length != 1)).length := by
  intro hist
  induction hist with
  | nil => intro s; rfl
  | cons c rest ih =>
    intro s
    obtain ⟨m, x⟩ := c
    rw [Cache.runHist, List.map_cons, List.sum_cons, List.filter_cons, ih, Cache.step_run_count]
    split
    · exact Nat.add_comm _ _
    · exact Nat.zero_add _

/-! non-vacuity: an identity-keyed store and a validator that rejects -/
example : (Cache.runHist (fun a b => pyEq a b) (fun _ x => match x with | .int _ => .valid x | _ => .raised .other) []
    [(.sync, .int 1), (.async, .int 1), (.sync, .str [])]).2.map (fun c => c.2.length) = [3, 1, 2] := by rfl

end Koda
