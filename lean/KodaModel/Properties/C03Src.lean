/-
  C03 — the list validator *as written in /repo's current source*.

  `Generated/ListSrc.lean` is rewritten on every run from the AST of `ListValidator._validate_to_tuple` and
  `_validate_to_tuple_async` (koda_validate/list.py).  Interpreting the translated methods
  (`KodaModel/PyList.lean`) is the model's `seqStep .list`: for every configuration (coercer or not, any
  container predicates, any async predicates), every item validator (as wrapped by `_wrap_sync_validator` /
  `_wrap_async_validator`) and every input — container-level failures before any element, every element
  validated, every failing index with the child's own `Invalid`, payloads in order, trace and exceptions.
-/
import KodaModel.Generated.ListSrc
import KodaModel.Lemmas.SrcLoops

namespace Koda

-- realises the equations of the interpreter once for this file; otherwise every proof that unfolds it derives them again
attribute [local simp] LExp.eval LStmt.exec LStmt.execL ltruthy lselfAttr LEnv.get LEnv.set

def lGuard : LStmt := .ite (.selfAttr .disallowSync) [.expr (.warn (.selfAttr .cls))] []

def lGate : LStmt :=
  .ite (.selfAttr .coerce)
    [.ite (.not (.attr (.walrus .coerced (.call1 (.selfAttr .coerce) .val)) .isJust))
       [.ret (.pair (.bool false) (.mkInvalid (.mkCoercionErr (.attr (.selfAttr .coerce) .compatibleTypes) .listTy) .val .self))]
       [.assign .coercedVal (.attr (.var .coerced) .valA)]]
    [.ite (.typeIsList .val) [.assign .coercedVal .val]
       [.ret (.pair (.bool false) (.mkInvalid (.mkTypeErr .listTy) .val .self))]]

def lSyncComp (viaMeth : Bool) : LExp :=
  .listComp (.var .pred) .pred (.selfAttr .predicates)
    (.not (if viaMeth then .meth (.var .pred) .call (.var .coercedVal) else .call1 (.var .pred) (.var .coercedVal)))

def lPredsSync : LStmt :=
  .ite (.selfAttr .predicates)
    [.assign .listErrors (lSyncComp true),
     .ite (.var .listErrors) [.ret (.pair (.bool false) (.mkInvalid (.mkPredErrs (.var .listErrors)) (.var .coercedVal) .self))] []]
    []

def lLoopBody (wrapped : LSelf) (aw : Bool) : List LStmt :=
  [.assign2 .isValid .itemResult
     (if aw then .await (.call1 (.selfAttr wrapped) (.var .item)) else .call1 (.selfAttr wrapped) (.var .item)),
   .ite (.not (.var .isValid)) [.setItem .indexErrs (.var .i) (.var .itemResult)]
     [.ite (.not (.var .indexErrs)) [.append .returnList (.var .itemResult)] []]]

def lLoop (wrapped : LSelf) (aw : Bool) : LStmt := .forIn2 .i .item (.enumerate (.var .coercedVal)) (lLoopBody wrapped aw)

def lFinal : LStmt :=
  .ite (.var .indexErrs)
    [.ret (.pair (.bool false) (.mkInvalid (.mkIndexErrs (.var .indexErrs)) (.var .coercedVal) .self))]
    [.ret (.pair (.bool true) (.var .returnList))]

def lTail (wrapped : LSelf) (aw : Bool) : List LStmt :=
  [.assign .returnList .emptyList, .assign .indexErrs .emptyDict, lLoop wrapped aw, lFinal]

theorem listSync_eq : Src.listSync = lGuard :: lGate :: lPredsSync :: lTail .wrappedSync false := rfl

def lAsyncBody : List LStmt :=
  [.ite (.not (.await (.meth (.var .predAsync) .validateAsync (.var .coercedVal))))
     [.append .predicateErrors (.var .predAsync)] []]

def lAsyncPreds : List LStmt :=
  [.assign .predicateErrors .emptyList,
   .ite (.selfAttr .predicates) [.extend .predicateErrors (lSyncComp false)] [],
   .ite (.isNotNone (.selfAttr .predicatesAsync)) [.forIn .predAsync (.selfAttr .predicatesAsync) lAsyncBody] [],
   .ite (.var .predicateErrors)
     [.ret (.pair (.bool false) (.mkInvalid (.mkPredErrs (.var .predicateErrors)) (.var .coercedVal) .self))] []]

theorem listAsync_eq : Src.listAsync = lGate :: (lAsyncPreds ++ lTail .wrappedAsync true) := rfl

def outL : Except (LErr × List Ev) LFlow → Option (Out × List Ev)
  | .error (.exn e, t) => some (.raised e, t)
  | .error (_, _) => none
  | .ok (.returned (.pair (.bool true) (.payloads ws)) st) => some (.valid (.list 0 ws), st.tr)
  | .ok (.returned (.pair (.bool false) (.invalid e)) st) => some (.invalid e, st.tr)
  | .ok _ => none

theorem runListMethod_eq (o : Oracle) (cfg : ListCfg) (body : List LStmt) (x : PyVal) :
    runListMethod o cfg body x = outL (LStmt.execL o cfg x { env := {}, tr := [] } body) := by
  simp only [runListMethod, outL]
  rfl

theorem lexecL_nil (o : Oracle) (cfg : ListCfg) (x : PyVal) (st : LSt) : LStmt.execL o cfg x st [] = .ok (.next st) := by
  simp only [LStmt.execL]

theorem lexecL_cons (o : Oracle) (cfg : ListCfg) (x : PyVal) (st : LSt) (s : LStmt) (rest : List LStmt) :
    LStmt.execL o cfg x st (s :: rest) =
      (match s.exec o cfg x st with
       | .error err => .error err
       | .ok (.next st) => LStmt.execL o cfg x st rest
       | .ok (.returned d st) => .ok (.returned d st)) := by
  simp only [LStmt.execL]
  rfl

theorem lexecL_single (o : Oracle) (cfg : ListCfg) (x : PyVal) (st : LSt) (s : LStmt) :
    LStmt.execL o cfg x st [s] = LStmt.exec o cfg x st s := by
  rw [lexecL_cons]
  simp only [lexecL_nil]
  rcases LStmt.exec o cfg x st s with _ | (_ | _) <;> rfl

theorem lexec_ite (o : Oracle) (cfg : ListCfg) (x : PyVal) (st : LSt) (c : LExp) (t e : List LStmt) :
    LStmt.exec o cfg x st (.ite c t e) =
      (match c.eval o cfg x st with
       | .error err => .error err
       | .ok (d, st) =>
         match ltruthy d with
         | none => .error (.stuck "truth value", st.tr)
         | some true => LStmt.execL o cfg x st t
         | some false => LStmt.execL o cfg x st e) := by
  simp only [LStmt.exec]
  rfl

theorem lexec_assign (o : Oracle) (cfg : ListCfg) (x : PyVal) (st : LSt) (v : LVar) (e : LExp) :
    LStmt.exec o cfg x st (.assign v e) =
      (match e.eval o cfg x st with
       | .error err => .error err
       | .ok (d, st) => .ok (.next { st with env := st.env.set v d })) := by
  simp only [LStmt.exec]
  rfl

theorem lexec_ite_pure (o : Oracle) (cfg : ListCfg) (x : PyVal) (st : LSt) (c : LExp) (t e : List LStmt) (d : LV) (b : Bool)
    (hc : c.eval o cfg x st = .ok (d, st)) (hb : ltruthy d = some b) :
    LStmt.exec o cfg x st (.ite c t e) = LStmt.execL o cfg x st (if b then t else e) := by
  rw [lexec_ite, hc]
  simp only [hb]
  cases b <;> rfl

theorem leval_selfAttr (o : Oracle) (cfg : ListCfg) (x : PyVal) (st : LSt) (a : LSelf) (r : LV) (h : lselfAttr cfg a = some r) :
    (LExp.selfAttr a).eval o cfg x st = .ok (r, st) := by
  simp only [LExp.eval, h]

/-- the same definition as `failingPreds` (`lfailing_eq`), under the name the statements about the list method use -/
def lfailing (ps : List Pred) (z : PyVal) : List Pred :=
  ps.filter (fun p => match p.k.call z with | .ok false => true | _ => false)

theorem lfailing_eq : lfailing = failingPreds := rfl

/-- `predicate_errors` holds the predicate objects `qs`; the freshly assigned `[]` is `.payloads []`, not `.preds []` (an empty
    Python list has no element type), hence the second case -/
def IsErrs (v : LV) (qs : List Pred) : Prop := v = .preds qs ∨ (qs = [] ∧ v = .payloads [])

theorem isErrs_truthy {v : LV} {qs : List Pred} (h : IsErrs v qs) : ltruthy v = some (!qs.isEmpty) := by
  rcases h with rfl | ⟨rfl, rfl⟩ <;> rfl

theorem lget_set_pred (e : LEnv) (d : LV) (w : LVar) (h : w ≠ .pred) : (e.set .pred d).get w = e.get w := by
  cases w <;> first | rfl | exact absurd rfl h

/-- generic in the two evaluators (the comprehension is written `pred(val)` in one method, `pred.__call__(val)` in the other) -/
theorem lcompFold_sync (evalCond evalElt : LSt → LM LV) (z : PyVal)
    (Hc : ∀ (st : LSt) (p : Pred), st.env.pred = .pred p → st.env.coercedVal = .py z →
      evalCond st = (match p.k.call z with
        | .ok b => .ok (.bool (!b), { st with tr := st.tr ++ p.ev })
        | .error e => .error (.exn e, st.tr ++ p.ev)))
    (He : ∀ (st : LSt) (p : Pred), st.env.pred = .pred p → evalElt st = .ok (.pred p, st))
    (ps : List Pred) (st : LSt) (hz : st.env.coercedVal = .py z) :
    (∀ f t e, runPreds ps z = (f, t, some e) →
      lcompFold evalCond evalElt .pred (ps.map LV.pred) (.ok ([], st)) = .error (.exn e, st.tr ++ t)) ∧
    (∀ f t, runPreds ps z = (f, t, none) →
      f = (lfailing ps z).map (·.pid) ∧
      ∃ st', lcompFold evalCond evalElt .pred (ps.map LV.pred) (.ok ([], st)) = .ok ((lfailing ps z).map LV.pred, st') ∧
        st'.tr = st.tr ++ t ∧ ∀ w, w ≠ .pred → st'.env.get w = st.env.get w) := by
  obtain ⟨c1, c2⟩ := predLoop_spec z Pred.ev (fun ps => runPreds ps z) rfl (fun _ _ => rfl)
    (fun ps (s : List LV × LSt) => lcompFold evalCond evalElt .pred (ps.map LV.pred) (.ok s))
    (fun s => s.2.tr) (fun s qs => s.1 = qs.map LV.pred ∧ ∀ w, w ≠ .pred → s.2.env.get w = st.env.get w)
    .ok (fun e t => .error (.exn e, t)) (fun _ => rfl)
    (by
      rintro p ps ⟨kept, s⟩ qs ⟨hk, hfr⟩
      have hk : kept = qs.map LV.pred := hk
      have hc := Hc { s with env := s.env.set .pred (.pred p) } p rfl ((hfr .coercedVal (by decide)).trans hz)
      simp only [List.map_cons, lcompFold, hc]
      refine ⟨fun e he => by rw [he], fun b hb => ?_⟩
      have hfr' : ∀ w, w ≠ .pred → (s.env.set .pred (.pred p)).get w = st.env.get w :=
        fun w hw => (lget_set_pred s.env _ w hw).trans (hfr w hw)
      rw [hb]
      cases b
      · simp only [Bool.not_false, ltruthy, He { env := s.env.set .pred (.pred p), tr := s.tr ++ p.ev } p rfl]
        exact ⟨(kept ++ [.pred p], { env := s.env.set .pred (.pred p), tr := s.tr ++ p.ev }), rfl, rfl,
          by show kept ++ [LV.pred p] = List.map LV.pred (qs ++ [p]); rw [hk, List.map_append]; rfl, hfr'⟩
      · exact ⟨(kept, { env := s.env.set .pred (.pred p), tr := s.tr ++ p.ev }), rfl, rfl, hk, hfr'⟩)
    ps ([], st) [] ⟨rfl, fun _ _ => rfl⟩
  refine ⟨c1, fun f t h => ?_⟩
  obtain ⟨hf, ⟨kept, st'⟩, h1, h2, hk, hfr⟩ := c2 f t h
  exact ⟨hf, st', by rw [h1, show kept = _ from hk]; rfl, h2, hfr⟩

theorem lfilterMap_preds (ps : List Pred) :
    (ps.map LV.pred).filterMap (fun d => match d with | .pred p => some p | .apred p => some p | _ => Option.none) = ps := by
  induction ps with
  | nil => rfl
  | cons p ps ih => rw [List.map_cons, List.filterMap_cons, ih]

theorem lSyncComp_eval (o : Oracle) (cfg : ListCfg) (x : PyVal) (viaMeth : Bool) (ps : List Pred) (hps : cfg.preds = some ps)
    (st : LSt) (z : PyVal) (hz : st.env.coercedVal = .py z) :
    (∀ f t e, runPreds ps z = (f, t, some e) → (lSyncComp viaMeth).eval o cfg x st = .error (.exn e, st.tr ++ t)) ∧
    (∀ f t, runPreds ps z = (f, t, none) →
      f = (lfailing ps z).map (·.pid) ∧
      ∃ st', (lSyncComp viaMeth).eval o cfg x st = .ok (.preds (lfailing ps z), st') ∧ st'.tr = st.tr ++ t ∧
        ∀ w, w ≠ .pred → st'.env.get w = st.env.get w) := by
  obtain ⟨c1, c2⟩ := lcompFold_sync
    (fun st => (LExp.not (if viaMeth then .meth (.var .pred) .call (.var .coercedVal)
      else .call1 (.var .pred) (.var .coercedVal))).eval o cfg x st)
    (fun st => (LExp.var .pred).eval o cfg x st) z
    (by
      intro st p h1 h2
      cases viaMeth <;> simp only [if_true, Bool.false_eq_true, if_false, LExp.eval, LEnv.get, h1, h2] <;>
        cases p.k.call z <;> rfl)
    (by intro st p h1; simp only [LExp.eval, LEnv.get, h1])
    ps st hz
  have hunf : (lSyncComp viaMeth).eval o cfg x st =
      (match lcompFold (fun st => (LExp.not (if viaMeth then .meth (.var .pred) .call (.var .coercedVal)
            else .call1 (.var .pred) (.var .coercedVal))).eval o cfg x st)
          (fun st => (LExp.var .pred).eval o cfg x st) .pred (ps.map LV.pred) (.ok ([], st)) with
       | .error err => .error err
       | .ok (kept, st) =>
         let qs := kept.filterMap (fun d => match d with | .pred p => some p | .apred p => some p | _ => Option.none)
         if qs.length = kept.length then .ok (.preds qs, st) else .error (.stuck "comprehension element", st.tr)) := by
    rw [lSyncComp, LExp.eval, leval_selfAttr o cfg x st .predicates (.preds ps) (by rw [lselfAttr, hps]; rfl)]
    rfl
  rw [hunf]
  refine ⟨fun f t e h => by rw [c1 f t e h], fun f t h => ?_⟩
  obtain ⟨hf, st', h1, h2, hfr⟩ := c2 f t h
  refine ⟨hf, st', ?_, h2, hfr⟩
  rw [h1]
  simp only [lfilterMap_preds, List.length_map, if_true]

/-- `if not await pred_async.validate_async(coerced_val): predicate_errors.append(pred_async)` -/
theorem lAsyncBody_exec (o : Oracle) (cfg : ListCfg) (x : PyVal) (st : LSt) (p : Pred) (z : PyVal) (qs : List Pred)
    (hp : st.env.predAsync = .apred p) (hz : st.env.coercedVal = .py z) (hq : IsErrs st.env.predicateErrors qs) :
    LStmt.execL o cfg x st lAsyncBody =
      (match p.k.call z with
       | .error e => .error (.exn e, st.tr ++ [.apred p.pid])
       | .ok true => .ok (.next { st with tr := st.tr ++ [.apred p.pid] })
       | .ok false => .ok (.next { env := st.env.set .predicateErrors (.preds (qs ++ [p])), tr := st.tr ++ [.apred p.pid] })) := by
  rw [lAsyncBody, lexecL_single, lexec_ite]
  simp only [LExp.eval, LEnv.get, hp, hz]
  cases p.k.call z with
  | error e => rfl
  | ok b =>
    cases b with
    | true => rfl
    | false =>
      simp only [ltruthy, Bool.not_false, lexecL_single, LStmt.exec, LExp.eval, LEnv.get, hp]
      rcases hq with hq | ⟨rfl, hq⟩ <;> rw [hq] <;> rfl

theorem lforFold_apreds (o : Oracle) (cfg : ListCfg) (x : PyVal) :
    ∀ (aps : List Pred) (st : LSt) (z : PyVal) (qs : List Pred), st.env.coercedVal = .py z →
      IsErrs st.env.predicateErrors qs →
      (∀ f t e, runAPreds aps z = (f, t, some e) →
        lforFold (fun st => LStmt.execL o cfg x st lAsyncBody) .predAsync (aps.map LV.apred) st = .error (.exn e, st.tr ++ t)) ∧
      (∀ f t, runAPreds aps z = (f, t, none) →
        f = (lfailing aps z).map (·.pid) ∧
        ∃ st', lforFold (fun st => LStmt.execL o cfg x st lAsyncBody) .predAsync (aps.map LV.apred) st = .ok (.next st') ∧
          st'.env.coercedVal = .py z ∧ st'.tr = st.tr ++ t ∧ IsErrs st'.env.predicateErrors (qs ++ lfailing aps z)) := by
  intro aps st z qs hz hq
  obtain ⟨c1, c2⟩ := predLoop_spec z (fun p => [.apred p.pid]) (fun ps => runAPreds ps z) rfl (fun _ _ => rfl)
    (fun ps st => lforFold (fun st => LStmt.execL o cfg x st lAsyncBody) .predAsync (ps.map LV.apred) st)
    (·.tr) (fun st qs => st.env.coercedVal = .py z ∧ IsErrs st.env.predicateErrors qs)
    (fun st => .ok (.next st)) (fun e t => .error (.exn e, t)) (fun _ => rfl)
    (by
      rintro p ps st qs ⟨hz, hq⟩
      simp only [List.map_cons, lforFold]
      rw [lAsyncBody_exec o cfg x { env := st.env.set .predAsync (.apred p), tr := st.tr } p z qs rfl hz hq]
      refine ⟨fun e he => by rw [he], fun b hb => ?_⟩
      rw [hb]
      cases b
      · exact ⟨_, rfl, rfl, hz, .inl rfl⟩
      · exact ⟨_, rfl, rfl, hz, hq⟩)
    aps st qs ⟨hz, hq⟩
  refine ⟨c1, fun f t h => ?_⟩
  obtain ⟨hf, st', h1, h2, h3, h4⟩ := c2 f t h
  exact ⟨hf, st', h1, h3, h2, h4⟩

theorem lexec_ifPreds (o : Oracle) (cfg : ListCfg) (x : PyVal) (st : LSt) (t : List LStmt) :
    LStmt.exec o cfg x st (.ite (.selfAttr .predicates) t []) =
      if cfg.preds.getD [] = [] then .ok (.next st) else LStmt.execL o cfg x st t := by
  have hite := lexec_ite_pure o cfg x st (.selfAttr .predicates) t [] (loptList .preds cfg.preds)
    (b := !(cfg.preds.getD []).isEmpty) (leval_selfAttr o cfg x st .predicates _ rfl) (by cases cfg.preds <;> rfl)
  rw [hite]
  cases h : cfg.preds.getD [] <;> rfl

theorem lSyncInto_exec (o : Oracle) (cfg : ListCfg) (x : PyVal) (st : LSt) (y : PyVal) (qs : List Pred)
    (hy : st.env.coercedVal = .py y) (hq : IsErrs st.env.predicateErrors qs) :
    (∀ f t e, runPreds (cfg.preds.getD []) y = (f, t, some e) →
      LStmt.exec o cfg x st (.ite (.selfAttr .predicates) [.extend .predicateErrors (lSyncComp false)] []) =
        .error (.exn e, st.tr ++ t)) ∧
    (∀ f t, runPreds (cfg.preds.getD []) y = (f, t, none) →
      f = (lfailing (cfg.preds.getD []) y).map (·.pid) ∧
      ∃ st', LStmt.exec o cfg x st (.ite (.selfAttr .predicates) [.extend .predicateErrors (lSyncComp false)] []) = .ok (.next st') ∧
        st'.tr = st.tr ++ t ∧ st'.env.coercedVal = .py y ∧
        IsErrs st'.env.predicateErrors (qs ++ lfailing (cfg.preds.getD []) y)) := by
  rw [lexec_ifPreds]
  by_cases h0 : cfg.preds.getD [] = []
  · rw [if_pos h0, h0]
    refine ⟨fun f t e h => by simp [runPreds] at h, fun f t h => ?_⟩
    simp only [runPreds, Prod.mk.injEq] at h
    obtain ⟨rfl, rfl, _⟩ := h
    exact ⟨rfl, st, rfl, (List.append_nil _).symm, hy, by rw [lfailing_eq, failingPreds_nil, List.append_nil]; exact hq⟩
  · rw [if_neg h0, lexecL_single]
    obtain ⟨c1, c2⟩ := lSyncComp_eval o cfg x false _ (getD_eq_some _ h0) st y hy
    refine ⟨fun f t e h => by simp only [LStmt.exec, c1 f t e h], fun f t h => ?_⟩
    obtain ⟨hf, st', h1, h2, hfr⟩ := c2 f t h
    have hq' : IsErrs (st'.env.get .predicateErrors) qs := by rw [hfr _ (by decide)]; exact hq
    refine ⟨hf, { st' with env := st'.env.set .predicateErrors (.preds (qs ++ lfailing (cfg.preds.getD []) y)) }, ?_, h2,
      (hfr .coercedVal (by decide)).trans hy, .inl rfl⟩
    simp only [LStmt.exec, h1]
    rcases hq' with hq' | ⟨rfl, hq'⟩ <;> rw [hq'] <;> rfl

theorem lexec_ifApredsFor (o : Oracle) (cfg : ListCfg) (x : PyVal) (st : LSt) (body : List LStmt) :
    LStmt.exec o cfg x st (.ite (.isNotNone (.selfAttr .predicatesAsync)) [.forIn .predAsync (.selfAttr .predicatesAsync) body] []) =
      lforFold (fun st => LStmt.execL o cfg x st body) .predAsync ((cfg.apreds.getD []).map LV.apred) st := by
  rw [lexec_ite]
  rcases h : cfg.apreds with _ | l
  · simp only [LExp.eval, lselfAttr, h, loptList, ltruthy, lexecL_nil]; rfl
  · simp only [LExp.eval, lselfAttr, h, loptList, ltruthy, lexecL_single, LStmt.exec]; rfl

theorem lErrsCheck_exec (o : Oracle) (cfg : ListCfg) (x : PyVal) (ev : LVar) (st : LSt) (y : PyVal) (qs : List Pred)
    (hy : st.env.coercedVal = .py y) (hq : IsErrs (st.env.get ev) qs) :
    LStmt.exec o cfg x st (.ite (.var ev)
        [.ret (.pair (.bool false) (.mkInvalid (.mkPredErrs (.var ev)) (.var .coercedVal) .self))] []) =
      if qs = [] then .ok (.next st)
      else .ok (.returned (.pair (.bool false) (.invalid (.mk (.preds (qs.map (·.pid))) y cfg.vid []))) st) := by
  rw [lexec_ite_pure o cfg x st _ _ _ _ _ rfl (isErrs_truthy hq)]
  cases qs with
  | nil => rfl
  | cons q qs' =>
    have hcv : st.env.get .coercedVal = .py y := hy
    simp only [List.isEmpty_cons, Bool.not_false, if_true, reduceCtorEq, if_false, lexecL_single, LStmt.exec, LExp.eval,
      hq.elim id (fun h => absurd h.1 (List.cons_ne_nil _ _)), hcv]

def LPredsStage (o : Oracle) (cfg : ListCfg) (x : PyVal) (m : Mode) (stage : List LStmt) : Prop :=
  ∀ (st : LSt) (y : PyVal) (rest : List LStmt), st.env.coercedVal = .py y →
    PredsStage outL (fun st' => LStmt.execL o cfg x st' rest) (fun st' t => st'.env.coercedVal = .py y ∧ st'.tr = st.tr ++ t)
      y cfg.vid st.tr (contPreds m (cfg.preds.getD []) (cfg.apreds.getD []) y) (LStmt.execL o cfg x st (stage ++ rest))

theorem lAsyncPreds_exec (o : Oracle) (cfg : ListCfg) (x : PyVal) : LPredsStage o cfg x .async lAsyncPreds := by
  intro st y rest hy
  -- the run is computed once, in `hR`; the three statements about it are split only at the end
  obtain ⟨R, hR⟩ : ∃ R, LStmt.execL o cfg x st (lAsyncPreds ++ rest) = R := ⟨_, rfl⟩
  rw [hR, contPreds_async]
  rw [lAsyncPreds, List.cons_append, lexecL_cons, lexec_assign, List.cons_append] at hR
  simp only [LExp.eval, lexecL_cons] at hR
  obtain ⟨s1, s2⟩ := lSyncInto_exec o cfg x { st with env := st.env.set .predicateErrors (.payloads []) } y [] hy (.inr ⟨rfl, rfl⟩)
  rcases hr : runPreds (cfg.preds.getD []) y with ⟨f1, t1, _ | e1⟩
  · obtain ⟨hf1, st1, hs1, ht1, hy1, hq1⟩ := s2 f1 t1 hr
    rw [hs1] at hR
    simp only [List.cons_append, lexecL_cons, lexec_ifApredsFor] at hR
    obtain ⟨a1, a2⟩ := lforFold_apreds o cfg x (cfg.apreds.getD []) st1 y _ hy1 hq1
    rcases hra : runAPreds (cfg.apreds.getD []) y with ⟨f2, t2, _ | e2⟩
    · obtain ⟨hf2, st2, hs2, hy2, ht2, hq2⟩ := a2 f2 t2 hra
      have htr : st2.tr = st.tr ++ (t1 ++ t2) := by rw [ht2, ht1, List.append_assoc]
      rw [hs2] at hR
      simp only [lErrsCheck_exec o cfg x .predicateErrors st2 y _ hy2 hq2, List.nil_append] at hR
      exact .of_checked _ (t1 ++ t2) st2
        (by rw [hf1, hf2, List.map_append]) (fun h => by rw [← hR, if_pos h]) (fun h => by rw [← hR, if_neg h, ← htr]; rfl)
        ⟨hy2, htr⟩
    · rw [a1 f2 t2 e2 hra, ht1, List.append_assoc] at hR
      exact .of_raised (by rw [← hR]; rfl)
  · rw [s1 f1 t1 e1 hr] at hR
    exact .of_raised (by rw [← hR]; rfl)

theorem lPredsSync_exec (o : Oracle) (cfg : ListCfg) (x : PyVal) : LPredsStage o cfg x .sync [lPredsSync] := by
  intro st y rest hy
  obtain ⟨R, hR⟩ : ∃ R, LStmt.execL o cfg x st ([lPredsSync] ++ rest) = R := ⟨_, rfl⟩
  rw [hR, contPreds_sync]
  rw [List.singleton_append, lexecL_cons, lPredsSync, lexec_ifPreds] at hR
  by_cases h0 : cfg.preds.getD [] = []
  · rw [if_pos h0] at hR
    rw [h0]
    exact .of_checked [] [] st rfl (fun _ => hR.symm)
      (fun h => absurd rfl h) ⟨hy, (List.append_nil _).symm⟩
  · obtain ⟨c1, c2⟩ := lSyncComp_eval o cfg x true _ (getD_eq_some _ h0) st y hy
    rw [if_neg h0, lexecL_cons, lexec_assign] at hR
    rcases hr : runPreds (cfg.preds.getD []) y with ⟨f1, t1, _ | e1⟩
    · obtain ⟨hf, st', h1, h2, hfr⟩ := c2 f1 t1 hr
      have hcv := (hfr .coercedVal (by decide)).trans hy
      rw [h1] at hR
      simp only [lexecL_single, lErrsCheck_exec o cfg x .listErrors
        { env := st'.env.set .listErrors (.preds (lfailing (cfg.preds.getD []) y)), tr := st'.tr } y _ hcv (.inl rfl)] at hR
      exact .of_checked _ t1
        { env := st'.env.set .listErrors (.preds (lfailing (cfg.preds.getD []) y)), tr := st'.tr } hf
        (fun h => by rw [← hR, if_pos h]) (fun h => by rw [← hR, if_neg h, ← h2]; rfl) ⟨hcv, h2⟩
    · rw [c1 f1 t1 e1 hr] at hR
      exact .of_raised (by rw [← hR]; rfl)

theorem lGuard_exec (o : Oracle) (cfg : ListCfg) (x : PyVal) (st : LSt) (rest : List LStmt) :
    LStmt.execL o cfg x st (lGuard :: rest) =
      (if (cfg.apreds.getD []) ≠ [] then .error (.exn .assertion, st.tr) else LStmt.execL o cfg x st rest) := by
  rw [lexecL_cons, lGuard, lexec_ite_pure o cfg x st (.selfAttr .disallowSync) _ [] _
    (!(cfg.apreds.getD []).isEmpty) (leval_selfAttr o cfg x st .disallowSync _ rfl) (by rcases cfg.apreds with _ | l <;> rfl)]
  cases cfg.apreds.getD [] with
  | nil => rfl
  | cons a l =>
    simp only [List.isEmpty_cons, Bool.not_false, if_true, ne_eq, reduceCtorEq, not_false_eq_true, lexecL_single, LStmt.exec,
      LExp.eval, lselfAttr]

theorem lGate_exec (o : Oracle) (cfg : ListCfg) (x : PyVal) (st : LSt) (rest : List LStmt) :
    GateStage outL (fun st' => LStmt.execL o cfg x st' rest) (fun st' y t => st'.env.coercedVal = .py y ∧ st'.tr = st.tr ++ t)
      x cfg.vid st.tr (gate o .list .list cfg.coerce x) (LStmt.execL o cfg x st (lGate :: rest)) := by
  rw [lexecL_cons, lGate]
  cases hc : cfg.coerce with
  | none =>
    rw [lexec_ite_pure o cfg x st _ _ _ .none false (leval_selfAttr o cfg x st .coerce _ (by rw [lselfAttr, hc])) rfl]
    have hcond : (LExp.typeIsList .val).eval o cfg x st = .ok (.bool (x.ty == .list), st) := by
      simp only [LExp.eval]
    simp only [Bool.false_eq_true, if_false, lexecL_single, gate]
    rw [lexec_ite_pure o cfg x st _ _ _ _ _ hcond rfl]
    by_cases hty : x.ty = .list
    · rw [if_pos hty, beq_iff_eq.mpr hty]
      exact .of_acc ⟨{ st with env := st.env.set .coercedVal (.py x) }, rfl, rfl, (List.append_nil _).symm⟩
    · rw [if_neg hty, beq_eq_false_iff_ne.mpr hty]
      refine .of_rej ?_
      simp only [Bool.false_eq_true, if_false, lexecL_single, LStmt.exec, LExp.eval, List.append_nil]
      rfl
  | some c =>
    have hsa : lselfAttr cfg .coerce = some (.coercer c) := by rw [lselfAttr, hc]
    rw [lexec_ite_pure o cfg x st _ _ _ _ true (leval_selfAttr o cfg x st .coerce _ hsa) rfl]
    have hcond : (LExp.not (.attr (.walrus .coerced (.call1 (.selfAttr .coerce) .val)) .isJust)).eval o cfg x st =
        .ok (.bool (!(callListCoercer o c x).1.isSome),
          { env := st.env.set .coerced (.maybe (callListCoercer o c x).1), tr := st.tr ++ (callListCoercer o c x).2 }) := by
      simp only [LExp.eval, hsa, ltruthy]
    simp only [if_true, lexecL_single, gate]
    rw [lexec_ite, hcond]
    rcases callCoercer_cases o .list .list c x (callListCoercer o c x) (listCompat c) rfl (by cases c <;> rfl) with ⟨y, t, hg, hcc⟩ | ⟨t, hg, hcc⟩ <;> rw [hg, hcc]
    · exact .of_acc ⟨{ env := (st.env.set .coerced (.maybe (some y))).set .coercedVal (.py y), tr := st.tr ++ t }, rfl, rfl, rfl⟩
    · refine .of_rej ?_
      simp only [Option.isSome_none, Bool.not_false, ltruthy, lexecL_single, LStmt.exec, LExp.eval, hsa]
      rfl

/-- the state during the loop over the elements: `return_list` holds the payloads `rl`, `index_errs` the errors `ie`,
    `coerced_val` is `cv` -/
structure LoopInv (st : LSt) (rl : List PyVal) (ie : List (Nat × Inv)) (cv : LV) : Prop where
  rl : st.env.returnList = .payloads rl
  ie : st.env.indexErrs = .idxErrs ie
  cv : st.env.coercedVal = cv

/-- what `lLoopBody_exec` proves of the loop body; `lforFold2_items` takes the same text, written out, as its hypothesis `Hb` -/
def LRound (cfg : ListCfg) (execBody : LSt → Except (LErr × List Ev) LFlow) : Prop :=
  ∀ (st : LSt) (n : Nat) (y : PyVal) (rl : List PyVal) (ie : List (Nat × Inv)) (cv : LV),
    st.env.i = .nat n → st.env.item = .py y → LoopInv st rl ie cv →
    (cfg.item y = none → ∃ t, execBody st = .error (.diverge, t)) ∧
    (∀ e t, cfg.item y = some (.raised e, t) → execBody st = .error (.exn e, st.tr ++ t)) ∧
    (∀ w t, cfg.item y = some (.valid w, t) →
      ∃ st1, execBody st = .ok (.next st1) ∧ LoopInv st1 (if ie.isEmpty then rl ++ [w] else rl) ie cv ∧ st1.tr = st.tr ++ t) ∧
    (∀ e t, cfg.item y = some (.invalid e, t) →
      ∃ st1, execBody st = .ok (.next st1) ∧ LoopInv st1 rl (ie ++ [(n, e)]) cv ∧ st1.tr = st.tr ++ t)

theorem lforFold2_items (cfg : ListCfg) (execBody : LSt → Except (LErr × List Ev) LFlow)
    (Hb : ∀ (st : LSt) (n : Nat) (y : PyVal) (rl : List PyVal) (ie : List (Nat × Inv)) (cv : LV),
      st.env.i = .nat n → st.env.item = .py y → LoopInv st rl ie cv →
      (cfg.item y = none → ∃ t, execBody st = .error (.diverge, t)) ∧
      (∀ e t, cfg.item y = some (.raised e, t) → execBody st = .error (.exn e, st.tr ++ t)) ∧
      (∀ w t, cfg.item y = some (.valid w, t) →
        ∃ st1, execBody st = .ok (.next st1) ∧ LoopInv st1 (if ie.isEmpty then rl ++ [w] else rl) ie cv ∧ st1.tr = st.tr ++ t) ∧
      (∀ e t, cfg.item y = some (.invalid e, t) →
        ∃ st1, execBody st = .ok (.next st1) ∧ LoopInv st1 rl (ie ++ [(n, e)]) cv ∧ st1.tr = st.tr ++ t)) :
    ∀ (xs : List PyVal) (n : Nat) (st : LSt) (rl : List PyVal) (ie : List (Nat × Inv)) (cv : LV), LoopInv st rl ie cv →
      (loopItems cfg.item false xs n true = none →
        ∃ t, lforFold2 execBody .i .item xs n st = .error (.diverge, t)) ∧
      (∀ r e, loopItems cfg.item false xs n true = some r → r.r = some e →
        lforFold2 execBody .i .item xs n st = .error (.exn e, st.tr ++ r.t)) ∧
      (∀ r, loopItems cfg.item false xs n true = some r → r.r = none →
        ∃ st1, lforFold2 execBody .i .item xs n st = .ok (.next st1) ∧ st1.tr = st.tr ++ r.t ∧
          (ie ++ r.es = [] → LoopInv st1 (rl ++ r.ws) [] cv) ∧
          (∃ rl', LoopInv st1 rl' (ie ++ r.es) cv)) := by
  intro xs n st rl ie cv hinv
  have h := itemsLoop_spec cfg.item false (fun xs n st => lforFold2 execBody .i .item xs n st) (·.tr)
    (fun st rl ie => LoopInv st rl ie cv) (fun st => .ok (.next st)) (fun e t => .error (.exn e, t))
    (fun r => ∃ t, r = .error (.diverge, t)) (fun _ _ => rfl)
    (by
      intro y ys n st rl ie h0
      obtain ⟨b1, b2, b3, b4⟩ := Hb { st with env := (st.env.set .i (.nat n)).set .item (.py y) } n y rl ie cv rfl rfl
        ⟨h0.rl, h0.ie, h0.cv⟩
      simp only [lforFold2, Bool.false_and, Bool.false_eq_true, if_false]
      rcases hc : cfg.item y with _ | ⟨w | e | e, t⟩ <;> simp only
      · obtain ⟨t0, h1⟩ := b1 hc
        exact ⟨t0, by rw [h1]⟩
      · obtain ⟨st1, h1, h2⟩ := b3 w t hc
        exact ⟨st1, by rw [h1], h2⟩
      · obtain ⟨st1, h1, h2⟩ := b4 e t hc
        exact ⟨st1, by rw [h1], h2⟩
      · rw [b2 e t hc])
    xs n st rl ie hinv
  rw [loopItems_ne cfg.item xs n ie.isEmpty true] at h
  exact loopResult_cases h

/-- States are written as record updates of `st.env`: their fields reduce at once, whereas through a chain of `LEnv.set` a
    fact about `st.env` is compared field by field at every level, which is slow to check. -/
theorem lCallItem_exec (o : Oracle) (cfg : ListCfg) (x : PyVal) (wrapped : LSelf) (aw : Bool)
    (hw : wrapped = .wrappedSync ∨ wrapped = .wrappedAsync) (st : LSt) (y : PyVal) (hy : st.env.item = .py y) :
    LStmt.exec o cfg x st (.assign2 .isValid .itemResult
        (if aw then .await (.call1 (.selfAttr wrapped) (.var .item)) else .call1 (.selfAttr wrapped) (.var .item))) =
      (match cfg.item y with
       | none => .error (.diverge, st.tr)
       | some (.raised e, t) => .error (.exn e, st.tr ++ t)
       | some (.valid w, t) => .ok (.next ⟨{ st.env with isValid := .bool true, itemResult := .py w }, st.tr ++ t⟩)
       | some (.invalid e, t) => .ok (.next ⟨{ st.env with isValid := .bool false, itemResult := .invalid e }, st.tr ++ t⟩)) := by
  have hy' : st.env.get .item = .py y := hy
  have hsa : lselfAttr cfg wrapped = some .wrapped := by rcases hw with rfl | rfl <;> rfl
  have haw : (if aw then LExp.await (.call1 (.selfAttr wrapped) (.var .item)) else .call1 (.selfAttr wrapped) (.var .item)).eval
      o cfg x st = (LExp.call1 (.selfAttr wrapped) (.var .item)).eval o cfg x st := by cases aw <;> rfl
  simp only [LStmt.exec, haw, LExp.eval, hsa, hy']
  rcases cfg.item y with _ | ⟨_ | _ | _, t⟩ <;> rfl

/-- files the item's result: `if not is_valid: index_errs[i] = item_result elif not index_errs: return_list.append(item_result)` -/
theorem lFile_exec (o : Oracle) (cfg : ListCfg) (x : PyVal) (st : LSt) (n : Nat) (rl : List PyVal) (ie : List (Nat × Inv))
    (hi : st.env.i = .nat n) (hrl : st.env.returnList = .payloads rl) (hie : st.env.indexErrs = .idxErrs ie) :
    (∀ w, st.env.isValid = .bool true → st.env.itemResult = .py w →
      LStmt.exec o cfg x st (.ite (.not (.var .isValid)) [.setItem .indexErrs (.var .i) (.var .itemResult)]
          [.ite (.not (.var .indexErrs)) [.append .returnList (.var .itemResult)] []]) =
        .ok (.next (if ie.isEmpty then { st with env := { st.env with returnList := .payloads (rl ++ [w]) } } else st))) ∧
    (∀ e, st.env.isValid = .bool false → st.env.itemResult = .invalid e →
      LStmt.exec o cfg x st (.ite (.not (.var .isValid)) [.setItem .indexErrs (.var .i) (.var .itemResult)]
          [.ite (.not (.var .indexErrs)) [.append .returnList (.var .itemResult)] []]) =
        .ok (.next { st with env := { st.env with indexErrs := .idxErrs (ie ++ [(n, e)]) } })) := by
  have hi' : st.env.get .i = .nat n := hi
  have hrl' : st.env.get .returnList = .payloads rl := hrl
  have hie' : st.env.get .indexErrs = .idxErrs ie := hie
  refine ⟨fun w hv hr => ?_, fun e hv hr => ?_⟩
  · have hv' : st.env.get .isValid = .bool true := hv
    have hr' : st.env.get .itemResult = .py w := hr
    cases ie <;>
      simp only [LExp.eval, hv', hie', hrl', hr', ltruthy, lexecL_single, lexecL_nil, LStmt.exec, List.isEmpty_nil,
        List.isEmpty_cons, Bool.not_true, Bool.not_false, Bool.false_eq_true, if_true, if_false]
    rfl
  · have hv' : st.env.get .isValid = .bool false := hv
    have hr' : st.env.get .itemResult = .invalid e := hr
    simp only [LExp.eval, hv', hi', hie', hr', ltruthy, lexecL_single, LStmt.exec, Bool.not_false]
    rfl

theorem lLoopBody_exec (o : Oracle) (cfg : ListCfg) (x : PyVal) (wrapped : LSelf) (aw : Bool)
    (hw : wrapped = .wrappedSync ∨ wrapped = .wrappedAsync) :
    LRound cfg (fun st => LStmt.execL o cfg x st (lLoopBody wrapped aw)) := by
  intro st n y rl ie cv hi hy hinv
  have hd := lCallItem_exec o cfg x wrapped aw hw st y hy
  dsimp only [lLoopBody]
  rw [lexecL_cons]
  refine ⟨fun h => ?_, fun e t h => ?_, fun w t h => ?_, fun e t h => ?_⟩ <;> simp only [h] at hd <;> rw [hd]
  · exact ⟨st.tr, rfl⟩
  · simp only [lexecL_single, (lFile_exec o cfg x ⟨{ st.env with isValid := .bool true, itemResult := .py w }, st.tr ++ t⟩
      n rl ie hi hinv.rl hinv.ie).1 w rfl rfl]
    cases ie with
    | nil => rw [List.isEmpty_nil, if_pos rfl, if_pos rfl]; exact ⟨_, rfl, ⟨rfl, hinv.ie, hinv.cv⟩, rfl⟩
    | cons a l => rw [List.isEmpty_cons, if_neg Bool.false_ne_true, if_neg Bool.false_ne_true]; exact ⟨_, rfl, ⟨hinv.rl, hinv.ie, hinv.cv⟩, rfl⟩
  · simp only [lexecL_single, (lFile_exec o cfg x ⟨{ st.env with isValid := .bool false, itemResult := .invalid e }, st.tr ++ t⟩
      n rl ie hi hinv.rl hinv.ie).2 e rfl rfl]
    exact ⟨_, rfl, ⟨hinv.rl, rfl, hinv.cv⟩, rfl⟩

theorem lLoop_exec (o : Oracle) (cfg : ListCfg) (x : PyVal) (wrapped : LSelf) (aw : Bool) (st : LSt) (y : PyVal)
    (hy : st.env.coercedVal = .py y) :
    (pyIter y = none → LStmt.exec o cfg x st (lLoop wrapped aw) = .error (.exn .typeError, st.tr)) ∧
    (∀ xs, pyIter y = some xs → LStmt.exec o cfg x st (lLoop wrapped aw) =
      lforFold2 (fun st => LStmt.execL o cfg x st (lLoopBody wrapped aw)) .i .item xs 0 st) := by
  have hcv : st.env.get .coercedVal = .py y := hy
  refine ⟨fun h => ?_, fun xs h => ?_⟩ <;> simp only [lLoop, LStmt.exec, LExp.eval, hcv, h]

theorem lFinal_exec (o : Oracle) (cfg : ListCfg) (x : PyVal) (st : LSt) (y : PyVal) (r : LoopR) (hr : r.r = none) (rl' : List PyVal)
    (h1 : r.es = [] → LoopInv st r.ws [] (.py y)) (h2 : LoopInv st rl' r.es (.py y)) :
    outL (LStmt.exec o cfg x st lFinal) = some (finishSeq .list cfg.vid y r, st.tr) := by
  have hie : st.env.get .indexErrs = .idxErrs r.es := h2.ie
  have hcv : st.env.get .coercedVal = .py y := h2.cv
  cases hes : r.es with
  | nil =>
    have hrl : st.env.get .returnList = .payloads r.ws := (h1 hes).rl
    rw [hes] at hie
    simp only [finishSeq, hr, hes, lFinal, lexec_ite, LExp.eval, hie, ltruthy, List.isEmpty_nil, Bool.not_true, lexecL_single,
      LStmt.exec, hrl, outL, if_true, SeqKind.build]
  | cons a l =>
    rw [hes] at hie
    simp only [finishSeq, hr, hes, lFinal, lexec_ite, LExp.eval, hie, hcv, ltruthy, List.isEmpty_cons, Bool.not_false, lexecL_single,
      LStmt.exec, outL, Bool.false_eq_true, if_false]

/-- `return_list = []; index_errs = {}; for i, item in enumerate(coerced_val): …; if index_errs: … else: …` -/
theorem lTail_exec (o : Oracle) (cfg : ListCfg) (x : PyVal) (wrapped : LSelf) (aw : Bool)
    (hw : wrapped = .wrappedSync ∨ wrapped = .wrappedAsync) (st : LSt) (y : PyVal) (hy : st.env.coercedVal = .py y) :
    outL (LStmt.execL o cfg x st (lTail wrapped aw)) =
      (match pyIter y with
       | none => some (.raised .typeError, st.tr)
       | some xs =>
         match loopItems cfg.item false xs 0 true with
         | none => none
         | some r => some (finishSeq .list cfg.vid y r, st.tr ++ r.t)) := by
  have hinv0 : LoopInv { st with env := (st.env.set .returnList (.payloads [])).set .indexErrs (.idxErrs []) } [] [] (.py y) :=
    ⟨rfl, rfl, hy⟩
  obtain ⟨n1, n2⟩ := lLoop_exec o cfg x wrapped aw _ y hinv0.cv
  have hinit : LStmt.execL o cfg x st (lTail wrapped aw) =
      LStmt.execL o cfg x { st with env := (st.env.set .returnList (.payloads [])).set .indexErrs (.idxErrs []) }
        [lLoop wrapped aw, lFinal] := by
    simp only [lTail, lexecL_cons, lexec_assign, LExp.eval]
  rw [hinit, lexecL_cons]
  cases hit : pyIter y with
  | none => rw [n1 hit]; rfl
  | some xs =>
    obtain ⟨l1, l2, l3⟩ := lforFold2_items cfg (fun st => LStmt.execL o cfg x st (lLoopBody wrapped aw))
      (lLoopBody_exec o cfg x wrapped aw hw) xs 0 _ [] [] (.py y) hinv0
    rw [n2 xs hit]
    simp only
    cases hl : loopItems cfg.item false xs 0 true with
    | none =>
      obtain ⟨t, ht⟩ := l1 hl
      rw [ht]; rfl
    | some r =>
      cases hr : r.r with
      | some e => rw [l2 r e hl hr]; simp only [finishSeq, hr]; rfl
      | none =>
        obtain ⟨st1, h1, h2, h3, rl', h4⟩ := l3 r hl hr
        rw [h1]
        simp only [lexecL_single]
        rw [lFinal_exec o cfg x st1 y r hr rl' h3 h4, h2]

theorem list_method (o : Oracle) (cfg : ListCfg) (x : PyVal) (m : Mode) (stage : List LStmt) (wrapped : LSelf) (aw : Bool)
    (hw : wrapped = .wrappedSync ∨ wrapped = .wrappedAsync) (hstage : LPredsStage o cfg x m stage)
    (hm : ¬ (m = .sync ∧ cfg.apreds.getD [] ≠ [])) :
    outL (LStmt.execL o cfg x { env := {}, tr := [] } (lGate :: (stage ++ lTail wrapped aw))) =
      seqStep .list o m cfg.vid (cfg.preds.getD []) (cfg.apreds.getD []) cfg.coerce cfg.item x := by
  obtain ⟨p, hp⟩ : ∃ p, seqPre .list o m cfg.vid (cfg.preds.getD []) (cfg.apreds.getD []) cfg.coerce x = p := ⟨_, rfl⟩
  obtain ⟨ml, mr⟩ := (seqPre_eq_iff.mp hp).method (cv := fun st y => st.env.coercedVal = .py y) (trOf := (·.tr)) hm
    (hgate := lGate_exec o cfg x { env := {}, tr := [] } (stage ++ lTail wrapped aw)) (hstage := fun st y h => hstage st y _ h)
    (T := fun y its t => match its with
      | none => some (.raised .typeError, t)
      | some xs => match loopItems cfg.item false xs 0 true with
        | none => none
        | some r => some (finishSeq .list cfg.vid y r, t ++ r.t))
    (hT := fun _ _ => rfl) (htail := fun st y h => lTail_exec o cfg x wrapped aw hw st y h)
  rw [seqStep, hp]
  rcases p with r | ⟨y, xs, t⟩
  · exact ml r rfl
  · exact mr y xs t rfl

/-- **the synchronous list validator, as written in the source, is the model's `seqStep .list`** -/
theorem src_list_sync (o : Oracle) (cfg : ListCfg) (x : PyVal) :
    runListMethod o cfg Src.listSync x =
      seqStep .list o .sync cfg.vid (cfg.preds.getD []) (cfg.apreds.getD []) cfg.coerce cfg.item x := by
  rw [runListMethod_eq, listSync_eq, lGuard_exec]
  by_cases hap : cfg.apreds.getD [] = []
  · rw [if_neg (fun h => h hap)]
    exact list_method o cfg x .sync [lPredsSync] .wrappedSync false (.inl rfl) (lPredsSync_exec o cfg x) (fun h => h.2 hap)
  · rw [if_pos hap, seqStep, seqPre_eq_iff.mpr (.guard rfl hap)]; rfl

/-- **the asynchronous list validator, as written in the source, is the model's `seqStep .list`** -/
theorem src_list_async (o : Oracle) (cfg : ListCfg) (x : PyVal) :
    runListMethod o cfg Src.listAsync x =
      seqStep .list o .async cfg.vid (cfg.preds.getD []) (cfg.apreds.getD []) cfg.coerce cfg.item x := by
  rw [runListMethod_eq, listAsync_eq]
  exact list_method o cfg x .async _ .wrappedAsync true (.inr rfl) (lAsyncPreds_exec o cfg x) (fun h => Mode.noConfusion h.1)

/-- `_disallow_synchronous = bool(predicates_async)`; the item validator is wrapped once, by `_wrap_sync_validator` /
    `_wrap_async_validator` -/
theorem src_list_init : Src.listInit =
    "self.item_validator = item_validator ; self.predicates = predicates ; self.predicates_async = predicates_async ; self._disallow_synchronous = bool(predicates_async) ; self.coerce = coerce ; self._wrapped_item_validator_sync = _wrap_sync_validator(item_validator) ; self._wrapped_item_validator_async = _wrap_async_validator(item_validator)" := rfl

/-- the wrappers turn either flavour of validator into a function returning `(is_valid, payload-or-Invalid)` -/
theorem src_list_wraps : Src.listWraps =
    ["_wrap_async_validator: if isinstance(obj, _ToTupleValidator):     return obj._validate_to_tuple_async else:     async_validator = obj.validate_async      async def inner(v: Any) -> _ResultTuple[A]:         result = await async_validator(v)         if result.is_valid:             return (True, result.val)         else:             return (False, result)     return inner", "_wrap_sync_validator: if isinstance(obj, _ToTupleValidator):     return obj._validate_to_tuple else:      def inner(v: Any) -> _ResultTuple[A]:         result = obj(v)         if result.is_valid:             return (True, result.val)         else:             return (False, result)     return inner"] := rfl

/-! ### non-vacuity: `ListValidator(IntValidator())` on `[1, "a", 2]` through the translated source -/

example : runListMethod default
      ⟨1, fun y => some (scalarStep default .sync 2 .int none [] [] [] y), none, none, none⟩ Src.listSync
      (.list 9 [.int 1, .str [97], .int 2]) =
    some (.invalid (.mk (.index [1]) (.list 9 [.int 1, .str [97], .int 2]) 1 [.mk (.type .int) (.str [97]) 2 []]), []) := by
  rw [src_list_sync]; rfl

end Koda
