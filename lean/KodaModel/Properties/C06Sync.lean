/-
  C06, second half — **whenever no async-only check is configured, the synchronous call returns**:
  the only `AssertionError` in the library is the guard of validators that have async-only checks, so
  a tree without them (`afree`, judged through the environment for `Lazy`) never raises it in sync
  mode, at any fuel, nesting or recursion.
-/
import KodaModel.Properties.C06

namespace Koda

mutual
/-- no async predicate / async object check is configured in the tree (a `Lazy` is judged through
    the environment, see `C06_sync_returns`) -/
def afree : V → Bool
  | .scalar _ _ _ _ _ aps => aps.isEmpty
  | .equals .. => true
  | .noneV .. => true
  | .always _ => true
  | .isDict _ => true
  | .list _ item _ aps _ => aps.isEmpty && afree item
  | .set _ item _ aps _ => aps.isEmpty && afree item
  | .utuple _ item _ aps _ => aps.isEmpty && afree item
  | .ntuple _ fs _ _ _ => afreeL fs
  | .map _ k v _ aps _ => aps.isEmpty && afree k && afree v
  | .record _ cfg vs => cfg.aoc.isNone && afreeL vs
  | .union _ vs => afreeL vs
  | .optional _ nv inner => afree nv && afree inner
  | .maybe _ inner => afree inner
  | .lazy _ _ => true
  | .knr _ inner => afree inner
  | .user _ inner => afree inner
termination_by structural v => v
def afreeL : List V → Bool
  | [] => true
  | v :: vs => afree v && afreeL vs
termination_by structural vs => vs
end

def NoAssert (ev : Ev1) : Prop := ∀ x r t, ev x = some (r, t) → r ≠ .raised .assertion

theorem NoAssert.of_raised {ev : Ev1} (h : ∀ x t, ev x = some (.raised .assertion, t) → False) : NoAssert ev :=
  fun x _ t hr he => h x t (he ▸ hr)

theorem NoAssert.not_raised {ev : Ev1} (h : NoAssert ev) {x : PyVal} {t : List Ev} :
    ev x ≠ some (.raised .assertion, t) := fun hx => h x _ t hx rfl

theorem seqStep_noAssert (k : SeqKind) (o : Oracle) (m : Mode) (vid : Nat) (ps : List Pred)
    (c : Option CoerceK) {ev : Ev1} (h : NoAssert ev)
    (hp : ∀ x r, seqPre k o m vid ps [] c x = .inl r → r.1 ≠ .raised .assertion) :
    NoAssert (seqStep k o m vid ps [] c ev) :=
  .of_raised fun x _ hr => by
    rcases seqStep_raised hr with h1 | ⟨y, t', h2⟩ | ⟨h3, _⟩
    · exact hp x _ h1 rfl
    · exact h.not_raised h2
    · cases h3

theorem pyLt_noassert (a b : PyVal) : pyLt a b ≠ .error .assertion := by
  fun_cases pyLt a b <;> (intro h; cases h)

theorem pyLe_noassert (a b : PyVal) : pyLe a b ≠ .error .assertion := by
  unfold pyLe
  split
  · rename_i e h; exact fun hh => pyLt_noassert a b (by cases hh; exact h)
  · exact nofun
  · exact nofun

theorem pyEqX_noassert (a b : PyVal) : pyEqX a b ≠ .error .assertion := by
  fun_cases pyEqX a b <;> (intro h; cases h)

theorem decModIsZero_noassert (a b : Dec) : decModIsZero a b ≠ .error .assertion := by
  fun_cases decModIsZero a b <;> (intro h; cases h)

theorem modIsZero_noassert (v f : PyVal) : modIsZero v f ≠ .error .assertion := by
  fun_cases modIsZero v f
  case case1 => exact decModIsZero_noassert _ _
  -- the plain numbers: `numFrac` of both, then the zero test
  case case12 | case13 | case14 => split <;> (try split) <;> (intro h; cases h)
  all_goals (intro h; cases h)

theorem lenCmp_noassert (x : PyVal) (f : Int → Bool) : lenCmp x f ≠ .error .assertion := by
  fun_cases lenCmp x f <;> (intro h; cases h)

theorem PredK_call_noassert (p : PredK) (x : PyVal) : p.call x ≠ .error .assertion := by
  fun_cases PredK.call p x
  case case1 => exact pyLt_noassert _ _
  case case2 => exact pyLe_noassert _ _
  case case3 => exact pyLt_noassert _ _
  case case4 => exact pyLe_noassert _ _
  case case5 => exact modIsZero_noassert _ _
  case case6 => exact pyEqX_noassert _ _
  all_goals first | exact lenCmp_noassert _ _ | (intro h; cases h)

theorem ProcK_call_noassert (p : ProcK) (x : PyVal) : p.call x ≠ .error .assertion := by
  fun_cases ProcK.call p x <;> (intro h; cases h)

theorem runPreds_noassert (ps : List Pred) (x : PyVal) : (runPreds ps x).2.2 ≠ some .assertion := by
  induction ps with
  | nil => simp [runPreds]
  | cons p ps ih =>
    simp only [runPreds]
    cases hc : p.k.call x with
    | error e =>
      simp only
      intro h
      simp only [Option.some.injEq] at h
      subst h
      exact PredK_call_noassert p.k x hc
    | ok b => simpa using ih

theorem runAPreds_noassert (ps : List Pred) (x : PyVal) : (runAPreds ps x).2.2 ≠ some .assertion := by
  induction ps with
  | nil => simp [runAPreds]
  | cons p ps ih =>
    simp only [runAPreds]
    cases hc : p.k.call x with
    | error e =>
      simp only
      intro h
      simp only [Option.some.injEq] at h
      subst h
      exact PredK_call_noassert p.k x hc
    | ok b => simpa using ih

theorem contPreds_noassert (m : Mode) (ps aps : List Pred) (x : PyVal) : (contPreds m ps aps x).2.2 ≠ some .assertion := by
  have h1 := runPreds_noassert ps x
  have h2 := runAPreds_noassert aps x
  simp only [contPreds]
  cases he : (runPreds ps x).2.2 with
  | some e =>
    simp only
    intro h
    simp only [Option.some.injEq] at h
    subst h
    exact h1 he
  | none =>
    simp only
    split
    · exact h2
    · simp

theorem runProcs_noassert (pre : List Proc) (x : PyVal) : (runProcs pre x).1 ≠ .error .assertion := by
  induction pre generalizing x with
  | nil => simp [runProcs]
  | cons p ps ih =>
    simp only [runProcs]
    cases hc : p.k.call x with
    | error e =>
      simp only
      intro h
      simp only [Except.error.injEq] at h
      subst h
      exact ProcK_call_noassert p.k x hc
    | ok y => exact ih y


theorem scalarStep_noassert (o : Oracle) (m : Mode) (vid : Nat) (tg : Ty) (c : Option CoerceK) (pre : List Proc)
    (ps : List Pred) (x : PyVal) : (scalarStep o m vid tg c pre ps [] x).1 ≠ .raised .assertion := by
  intro hr
  rcases scalarStep_raised hr with ⟨_, _, h⟩ | ⟨y, t, _, h | ⟨z, _, h⟩⟩
  · exact h rfl
  · exact runProcs_noassert pre y h
  · exact contPreds_noassert m ps [] z h

theorem equalsStep_noassert (vid : Nat) (mt : PyVal) (pre : List Proc) (pid : Nat) (x : PyVal) :
    (equalsStep vid mt pre pid x).1 ≠ .raised .assertion := by
  intro hr
  rcases equalsStep_raised hr with h | ⟨z, _, h⟩
  · exact runProcs_noassert pre x h
  · exact pyEqX_noassert z mt h

theorem ContPre.noassert {α gateTy destTy} {items : PyVal → Option α} {exn o m vid ps c x t}
    (h : ContPre gateTy destTy items exn o m vid ps [] c x (.inl (.raised .assertion, t))) (hexn : exn ≠ .assertion) :
    False := by
  rcases h.raised with ⟨_, _, h⟩ | ⟨y, _, _, h | ⟨h, _⟩⟩
  · exact h rfl
  · exact contPreds_noassert m ps [] y h
  · exact hexn h.symm

theorem seqPre_noassert (k : SeqKind) (o : Oracle) (m : Mode) (vid : Nat) (ps : List Pred) (c : Option CoerceK) :
    ∀ x r, seqPre k o m vid ps [] c x = .inl r → r.1 ≠ .raised .assertion := by
  rintro x ⟨out, t⟩ hr rfl
  exact (seqPre_eq_iff.1 hr).noassert nofun

theorem unionStep_noassert (vid : Nat) (evs : List Ev1) (h : ∀ ev ∈ evs, NoAssert ev) : NoAssert (unionStep vid evs) :=
  .of_raised fun _ _ hr => by
    obtain ⟨ev, hev, t', hx⟩ := unionStep_raised hr
    exact (h ev hev).not_raised hx

theorem maybeStep_noassert (vid : Nat) (ev : Ev1) (h : NoAssert ev) : NoAssert (maybeStep vid ev) :=
  .of_raised fun _ _ hr => by
    obtain ⟨v, hx⟩ := maybeStep_raised hr
    exact h.not_raised hx

theorem knrStep_noassert (ev : Ev1) (h : NoAssert ev) : NoAssert (knrStep ev) :=
  .of_raised fun _ _ hr => h.not_raised (knrStep_raised hr)

theorem userStep_noassert (vid : Nat) (m : Mode) (ev : Ev1) (h : NoAssert ev) : NoAssert (userStep vid m ev) :=
  .of_raised fun _ _ hr => by
    obtain ⟨t', hx⟩ := userStep_raised hr
    exact h.not_raised hx

theorem ntupleStep_noassert (o : Oracle) (vid : Nat) (oc : Option ObjCheck) (c : Option CoerceK) (lp : Nat)
    (evs : List Ev1) (hc : ∀ ev ∈ evs, NoAssert ev) : NoAssert (ntupleStep o vid oc c lp evs) :=
  .of_raised fun _ _ hr => by
    rcases ntupleStep_raised hr with h1 | ⟨ev, hev, y, t', h2⟩
    · cases (ntuplePre_eq_iff.1 h1).raised.1
    · exact (hc ev hev).not_raised h2

theorem mapStep_noassert (o : Oracle) (m : Mode) (vid : Nat) (ps : List Pred) (c : Option CoerceK)
    (evk evv : Ev1) (hk : NoAssert evk) (hv : NoAssert evv) : NoAssert (mapStep o m vid ps [] c evk evv) :=
  .of_raised fun _ _ hr => by
    rcases mapStep_raised hr with h1 | ⟨y, t', h2 | h2⟩ | ⟨h3, _⟩
    · exact (mapPre_eq_iff.1 h1).noassert nofun
    · exact hk.not_raised h2
    · exact hv.not_raised h2
    · cases h3

theorem recordStep_noassert (o : Oracle) (vid : Nat) (cfg : RecCfg) (haoc : cfg.aoc = none) (evs : List Ev1)
    (hc : ∀ ev ∈ evs, NoAssert ev) : NoAssert (recordStep o .sync vid cfg evs) :=
  .of_raised fun _ _ hr => by
    rcases recordStep_raised hr with h1 | ⟨ev, hev, y, t', h2⟩
    · rcases (recPre_eq_iff.1 h1).raised with ⟨_, _, h⟩ | h
      · rw [haoc] at h; cases h
      · cases h
    · exact (hc ev hev).not_raised h2

theorem afreeL_mem : ∀ (vs : List V), afreeL vs = true → ∀ v ∈ vs, afree v = true
  | [], _, v, hv => by simp at hv
  | w :: ws, h, v, hv => by
    simp only [afreeL, Bool.and_eq_true] at h
    rcases List.mem_cons.1 hv with rfl | hv
    · exact h.1
    · exact afreeL_mem ws h.2 v hv

/-- **C06, "the synchronous call returns"**: a tree in which no async-only check is configured
    (`afree`), in an environment of such trees, never raises the guard's AssertionError when called
    synchronously — for every fuel, nesting and recursion through `Lazy` -/
theorem C06_sync_returns (o : Oracle) (env : Nat → V) (henv : ∀ ref, afree (env ref) = true) :
    ∀ n v, afree v = true → NoAssert (run o env .sync n v) := by
  intro n
  induction n with
  | zero => intro v _ x r t h; cases h
  | succ n ih =>
    intro v hv
    have ihL : ∀ vs : List V, afreeL vs = true → ∀ ev ∈ vs.map (run o env .sync n), NoAssert ev := by
      intro vs h ev hev
      obtain ⟨w, hw, rfl⟩ := List.mem_map.1 hev
      exact ih w (afreeL_mem vs h w hw)
    have leaf : ∀ {p : Out × List Ev}, p.1 ≠ .raised .assertion → NoAssert fun _ => some p :=
      fun h _ _ _ hr => by cases hr; exact h
    cases v with
    | scalar vid tg c pre ps aps =>
      obtain rfl : aps = [] := List.isEmpty_iff.1 hv
      exact fun x => leaf (scalarStep_noassert o .sync vid tg c pre ps x) x
    | equals vid mt pre pid => exact fun x => leaf (equalsStep_noassert vid mt pre pid x) x
    | noneV vid c => exact fun x => leaf (noneStep_clean o vid c x .assertion) x
    | always vid => exact fun x => leaf (p := (.valid x, [])) nofun x
    | isDict vid => exact fun x => leaf (isDictStep_clean vid x .assertion) x
    | list vid item ps aps c | set vid item ps aps c | utuple vid item ps aps c =>
      simp only [afree, Bool.and_eq_true, List.isEmpty_iff] at hv
      obtain ⟨rfl, hi⟩ := hv
      exact seqStep_noAssert _ o .sync vid ps c (ih item hi) (seqPre_noassert _ o .sync vid ps c)
    | ntuple vid fs oc c lp => exact ntupleStep_noassert _ _ _ _ _ _ (ihL fs hv)
    | map vid kv vv ps aps c =>
      simp only [afree, Bool.and_eq_true, List.isEmpty_iff] at hv
      obtain ⟨⟨rfl, hk⟩, hvv⟩ := hv
      exact mapStep_noassert o .sync vid ps c _ _ (ih kv hk) (ih vv hvv)
    | record vid cfg vs =>
      simp only [afree, Bool.and_eq_true, Option.isNone_iff_eq_none] at hv
      exact recordStep_noassert o vid cfg hv.1 _ (ihL vs hv.2)
    | union vid vs => exact unionStep_noassert _ _ (ihL vs hv)
    | optional vid nv inner =>
      simp only [afree] at hv
      exact unionStep_noassert _ _ (ihL [nv, inner] (by simpa only [afreeL, Bool.and_true] using hv))
    | maybe vid inner => exact maybeStep_noassert vid _ (ih inner hv)
    | lazy vid ref => exact ih (env ref) (henv ref)
    | knr vid inner => exact knrStep_noassert _ (ih inner hv)
    | user vid inner => exact userStep_noassert vid .sync _ (ih inner hv)

example : afree (.list 1 (.scalar 2 .int none [] [⟨1, .min (.int 0) false⟩] []) [] [] none) = true := by decide

end Koda
