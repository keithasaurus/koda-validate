/-
  C17 — fixed points for the containers that merge: sets, maps, and the record-shaped validators.

  A set / dict a validator built has pairwise unequal members / keys (that is what `set.add` and
  `d[k] = v` leave behind), so validating it again re-builds it member by member without any merging:
  `dedup_idem`, `mapLoop_fixed`.  Record-shaped validators: the dict (DictValidatorAny, TypedDict) or
  instance (dataclass, NamedTuple) they build has exactly the declared keys that were present, each
  holding the child's payload, so the second pass finds each payload under its key and — the children
  being fixed points — re-builds the same object.
-/
import KodaModel.Properties.C03
import KodaModel.Properties.C04
import KodaModel.Properties.C17

namespace Koda

/-- `l` continues `acc` without ever adding a member that an earlier one equals -/
def FreshFrom : List PyVal → List PyVal → Prop
  | _, [] => True
  | acc, x :: l => memL x acc = false ∧ FreshFrom (acc ++ [x]) l

theorem foldl_setAdd_fresh : ∀ (l acc : List PyVal), FreshFrom acc l → l.foldl setAdd acc = acc ++ l
  | [], acc, _ => by simp
  | x :: l, acc, h => by
    obtain ⟨h1, h2⟩ := h
    simp only [List.foldl_cons, setAdd, h1, Bool.false_eq_true, if_false]
    rw [foldl_setAdd_fresh l (acc ++ [x]) h2]
    simp

theorem foldl_setAdd_spec : ∀ (xs acc : List PyVal),
    ∃ l, xs.foldl setAdd acc = acc ++ l ∧ FreshFrom acc l ∧ ∀ w ∈ l, w ∈ xs
  | [], acc => ⟨[], by simp, trivial, by simp⟩
  | x :: xs, acc => by
    simp only [List.foldl_cons, setAdd]
    cases hm : memL x acc with
    | true =>
      obtain ⟨l, h1, h2, h3⟩ := foldl_setAdd_spec xs acc
      exact ⟨l, by simpa using h1, h2, fun w hw => by simp [h3 w hw]⟩
    | false =>
      obtain ⟨l, h1, h2, h3⟩ := foldl_setAdd_spec xs (acc ++ [x])
      refine ⟨x :: l, by simpa using h1, ⟨hm, h2⟩, ?_⟩
      intro w hw
      simp only [List.mem_cons] at hw ⊢
      rcases hw with rfl | hw
      · exact .inl rfl
      · exact .inr (h3 w hw)

theorem dedup_fresh (ws : List PyVal) : FreshFrom [] (dedup ws) ∧ ∀ w ∈ dedup ws, w ∈ ws := by
  obtain ⟨l, h1, h2, h3⟩ := foldl_setAdd_spec ws []
  simp only [List.nil_append] at h1
  unfold dedup
  rw [h1]
  exact ⟨h2, h3⟩

theorem dedup_idem (ws : List PyVal) : dedup (dedup ws) = dedup ws := by
  have := foldl_setAdd_fresh (dedup ws) [] (dedup_fresh ws).1
  simpa [dedup] using this

/-- **C17, sets**: the set a `SetValidator` built is accepted by it unchanged -/
theorem C17_set_fixed (o : Oracle) (m : Mode) (vid : Nat) (ev : Ev1) (ws : List PyVal)
    (hitems : ∀ w ∈ ws, hashable w = true ∧ ∃ t, ev w = some (.valid w, t)) :
    ∃ t, seqStep .set o m vid [] [] none ev (.set 0 (dedup ws)) = some (.valid (.set 0 (dedup ws)), t) :=
  C17_seq_fixed .set o m vid [] [] none ev (.set 0 (dedup ws)) (dedup ws) rfl (congrArg (PyVal.set 0) (dedup_idem ws))
    (by simp) rfl ⟨[], contPreds_nil m _⟩
    (fun w hw => ⟨fun _ => (hitems w ((dedup_fresh ws).2 w hw)).1, (hitems w ((dedup_fresh ws).2 w hw)).2⟩)

theorem seqStep_payloadsFixed (k : SeqKind) (o : Oracle) (m : Mode) (vid : Nat) (c : Option CoerceK) {ev : Ev1}
    (hgate : ∀ ws, gate o k.gateTy k.destTy c (k.build ws) = .acc (k.build ws) []) (hev : PayloadsFixed ev) :
    PayloadsFixed (seqStep k o m vid [] [] c ev) := by
  intro x w t h
  obtain ⟨ws, rfl, hws⟩ := seqStep_valid_inv h
  -- the elements Python iterates over in the container built: `ws`, or (set) `dedup ws`, a sublist
  have hitems : ∀ es : List PyVal, (∀ w ∈ es, w ∈ ws) →
      ∀ w ∈ es, (k = .set → hashable w = true) ∧ ∃ t, ev w = some (.valid w, t) := by
    intro es hsub w hw
    obtain ⟨hh, x', u, hx'⟩ := hws w (hsub w hw)
    exact ⟨hh, hev x' w u hx'⟩
  have hp : ∃ t1, contPreds m [] [] (k.build ws) = ([], t1, none) := ⟨[], contPreds_nil m _⟩
  cases k
  case set =>
    exact C17_seq_fixed .set o m vid [] [] c ev _ (dedup ws) rfl (congrArg (PyVal.set 0) (dedup_idem ws)) (by simp)
      (hgate ws) hp (hitems (dedup ws) (dedup_fresh ws).2)
  all_goals exact C17_seq_fixed _ o m vid [] [] c ev _ ws rfl rfl (by simp) (hgate ws) hp (hitems ws fun _ h => h)

theorem dictSet_keys (acc : List (PyVal × PyVal)) (k v : PyVal) :
    (dictSet acc k v).map Prod.fst = setAdd (acc.map Prod.fst) k := by
  induction acc, k, v using dictSet.induct with
  | case1 k' v' rest k v hk => simp [dictSet, hk, setAdd, memL]
  | case2 k' v' rest k v hk ih =>
    rw [dictSet, if_neg hk, List.map_cons, ih]
    simp only [setAdd, memL, List.map_cons, List.any_cons, Bool.eq_false_iff.2 hk, Bool.false_or]
    split <;> simp [*]
  | case3 k v => simp [dictSet, setAdd, memL]

theorem dictSet_fresh (acc : List (PyVal × PyVal)) (k v : PyVal) (h : memL k (acc.map Prod.fst) = false) :
    dictSet acc k v = acc ++ [(k, v)] := by
  induction acc, k, v using dictSet.induct with
  | case1 k' v' rest k v hk => simp [memL, hk] at h
  | case2 k' v' rest k v hk ih =>
    simp only [List.map_cons, memL, List.any_cons, Bool.or_eq_false_iff] at h
    rw [dictSet, if_neg hk, ih h.2]
    rfl
  | case3 k v => rfl

/-- the entries of the dict a map validator builds: keys are payloads of the key validator, hashable,
    values payloads of the value validator -/
structure MapOut (evk evv : Ev1) (out : List (PyVal × PyVal)) : Prop where
  keys : ∀ p ∈ out, hashable p.1 = true ∧ ∃ k u, evk k = some (.valid p.1, u)
  vals : ∀ p ∈ out, ∃ v u, evv v = some (.valid p.2, u)

theorem dictSet_mem (acc : List (PyVal × PyVal)) (k v : PyVal) (p : PyVal × PyVal) :
    p ∈ dictSet acc k v → (p.1 = k ∨ ∃ q ∈ acc, q.1 = p.1) ∧ (p.2 = v ∨ ∃ q ∈ acc, q.2 = p.2) := by
  induction acc, k, v using dictSet.induct with
  | case1 k' v' rest k v hk =>
    intro h
    rw [dictSet, if_pos hk, List.mem_cons] at h
    rcases h with rfl | h
    · exact ⟨.inr ⟨(k', v'), by simp, rfl⟩, .inl rfl⟩
    · exact ⟨.inr ⟨p, by simp [h], rfl⟩, .inr ⟨p, by simp [h], rfl⟩⟩
  | case2 k' v' rest k v hk ih =>
    intro h
    rw [dictSet, if_neg hk, List.mem_cons] at h
    rcases h with rfl | h
    · exact ⟨.inr ⟨(k', v'), by simp, rfl⟩, .inr ⟨(k', v'), by simp, rfl⟩⟩
    · obtain ⟨h1, h2⟩ := ih h
      exact ⟨h1.imp_right fun ⟨q, hq, hq'⟩ => ⟨q, by simp [hq], hq'⟩, h2.imp_right fun ⟨q, hq, hq'⟩ => ⟨q, by simp [hq], hq'⟩⟩
  | case3 k v =>
    intro h
    simp only [dictSet, List.mem_cons, List.not_mem_nil, or_false] at h
    subst h
    exact ⟨.inl rfl, .inl rfl⟩

theorem MapOut.dictSet {evk evv : Ev1} {acc : List (PyVal × PyVal)} (h : MapOut evk evv acc) {k kw v vw : PyVal}
    {tk tv : List Ev} (hk : evk k = some (.valid kw, tk)) (hh : hashable kw = true) (hv : evv v = some (.valid vw, tv)) :
    MapOut evk evv (dictSet acc kw vw) where
  keys p hp := by
    rcases (dictSet_mem acc kw vw p hp).1 with h1 | ⟨q, hq, hq'⟩
    · rw [h1]; exact ⟨hh, k, tk, hk⟩
    · rw [← hq']; exact h.keys q hq
  vals p hp := by
    rcases (dictSet_mem acc kw vw p hp).2 with h1 | ⟨q, hq, hq'⟩
    · rw [h1]; exact ⟨v, tv, hv⟩
    · rw [← hq']; exact h.vals q hq

/-- invariant of an accepting map loop: the dict grows by pairwise unequal keys, and holds payloads -/
theorem MapL.valid_out {evk evv : Ev1} {kvs acc : List (PyVal × PyVal)} {r : MapR} (h : MapL evk evv kvs acc r) :
    r.r = none → r.ks = [] → MapOut evk evv acc →
    (∃ l, acc.map Prod.fst ++ l = r.out.map Prod.fst ∧ FreshFrom (acc.map Prod.fst) l) ∧ MapOut evk evv r.out := by
  induction h with
  | nil acc => intro _ _ hacc; exact ⟨⟨[], by simp, trivial⟩, hacc⟩
  | keyRaised => intro hr; cases hr
  | valRaised => intro hr; cases hr
  | unhashable => intro hr; cases hr
  | keyFailed => intro _ hks; cases hks
  | valFailed => intro _ hks; cases hks
  | bothFailed => intro _ hks; cases hks
  | @stored k v rest acc kw tk vw tv r hek hev hh _ ih =>
    intro hrn hks hacc
    obtain ⟨⟨l, hl1, hl2⟩, hout⟩ := ih hrn hks (hacc.dictSet hek hh hev)
    refine ⟨?_, hout⟩
    rw [dictSet_keys] at hl1 hl2
    simp only [setAdd] at hl1 hl2
    cases hm : memL kw (acc.map Prod.fst) with
    | true =>
      simp only [hm, if_true] at hl1 hl2
      exact ⟨l, hl1, hl2⟩
    | false =>
      simp only [hm, Bool.false_eq_true, if_false] at hl1 hl2
      exact ⟨kw :: l, by simpa using hl1, ⟨hm, hl2⟩⟩

theorem mapLoop_fixed (evk evv : Ev1) : ∀ (l acc : List (PyVal × PyVal)),
    FreshFrom (acc.map Prod.fst) (l.map Prod.fst) →
    (∀ p ∈ l, hashable p.1 = true ∧ (∃ t, evk p.1 = some (.valid p.1, t)) ∧ ∃ t, evv p.2 = some (.valid p.2, t)) →
    ∃ t, mapLoop evk evv l acc = some ⟨acc ++ l, [], [], [], t, none⟩ := by
  intro l
  induction l with
  | nil => intro acc _ _; exact ⟨[], by simp [mapLoop]⟩
  | cons p l ih =>
    intro acc hf h
    obtain ⟨k, v⟩ := p
    obtain ⟨hh, ⟨tk, hk⟩, ⟨tv, hv⟩⟩ := h (k, v) (by simp)
    simp only [List.map_cons, FreshFrom] at hf
    obtain ⟨hf1, hf2⟩ := hf
    have hds : dictSet acc k v = acc ++ [(k, v)] := dictSet_fresh acc k v hf1
    obtain ⟨t', ht'⟩ := ih (acc ++ [(k, v)]) (by simpa using hf2) (fun q hq => h q (by simp [hq]))
    simp only at hk hv hh
    exact ⟨tk ++ tv ++ t', by simp [mapLoop, hk, hv, hh, hds, ht']⟩

/-- **C17, maps**: the dict a `MapValidator` (no container predicates, no coercer) built is accepted by it
    unchanged, provided key and value payloads are fixed points of their validators -/
theorem C17_map_fixed (o : Oracle) (m : Mode) (vid : Nat) (evk evv : Ev1) (x w : PyVal) (t : List Ev)
    (h : mapStep o m vid [] [] none evk evv x = some (.valid w, t))
    (hkfix : PayloadsFixed evk) (hvfix : PayloadsFixed evv) :
    ∃ t', mapStep o m vid [] [] none evk evv w = some (.valid w, t') := by
  rcases mapStep_some.1 h with hp | ⟨y, kvs, t0, l, _, hl, hpq⟩
  · exact absurd rfl ((mapPre_eq_iff.1 hp).inl_not_valid w)
  · obtain ⟨hrn, hks, rfl⟩ := mapFinish_valid hpq.symm
    obtain ⟨⟨ks, hl1, hl2⟩, hout⟩ := hl.valid_out hrn hks ⟨by simp, by simp⟩
    simp only [List.map_nil, List.nil_append] at hl1 hl2
    subst hl1
    have hpre : mapPre o m vid [] [] none (.dict 0 l.out) = .inr (.dict 0 l.out, l.out, [] ++ []) :=
      mapPre_eq_iff.2 (.pass (by simp) rfl (contPreds_nil m _) rfl)
    obtain ⟨t', ht'⟩ := mapLoop_fixed evk evv l.out [] (by simpa using hl2) (fun p hp => by
      obtain ⟨hh, k, u, hk⟩ := hout.keys p hp
      obtain ⟨v, u', hv⟩ := hout.vals p hp
      exact ⟨hh, hkfix k p.1 u hk, hvfix v p.2 u' hv⟩)
    exact ⟨([] ++ []) ++ t', by simp [mapStep, hpre, ht', mapFinish]⟩

def isStrVal : PyVal → Bool
  | .str _ => true
  | _ => false

/-- declared keys: strings (so `k == k`), pairwise unequal -/
def keysOKb : List PyVal → Bool
  | [] => true
  | k :: ks => isStrVal k && ks.all (fun k' => !pyEq k k' && !pyEq k' k) && keysOKb ks

theorem pyEq_str_refl (k : PyVal) (h : isStrVal k = true) : pyEq k k = true := by
  cases k <;> simp [isStrVal] at h
  simp [pyEq, PyVal.unsub]

def presentOf (keys : List PyVal) (got : List (Option PyVal)) : List (PyVal × PyVal) :=
  (keys.zip got).filterMap (fun kg => kg.2.map (fun w => (kg.1, w)))

theorem presentOf_cons (k : PyVal) (ks : List PyVal) (g : Option PyVal) (gs : List (Option PyVal)) :
    presentOf (k :: ks) (g :: gs) =
      (match g with | some w => [(k, w)] | none => []) ++ presentOf ks gs := by
  cases g <;> simp [presentOf]

theorem dictGet_presentOf_none (k : PyVal) : ∀ (keys : List PyVal) (got : List (Option PyVal)),
    (∀ k' ∈ keys, pyEq k' k = false) → dictGet (presentOf keys got) k = none
  | [], _, _ => by simp [presentOf, dictGet]
  | _ :: _, [], _ => by simp [presentOf, dictGet]
  | k0 :: ks, g :: gs, h => by
    rw [presentOf_cons]
    have ih := dictGet_presentOf_none k ks gs (fun k' hk' => h k' (by simp [hk']))
    cases g with
    | none => simpa using ih
    | some w => simp [dictGet, h k0 (by simp), ih]

theorem dictGet_presentOf : ∀ (keys : List PyVal) (got : List (Option PyVal)), keysOKb keys = true →
    ∀ kg ∈ keys.zip got, dictGet (presentOf keys got) kg.1 = kg.2
  | [], _, _, kg, h => nomatch h
  | _ :: _, [], _, kg, h => nomatch h
  | k0 :: ks, g :: gs, hk, kg, h => by
    simp only [keysOKb, Bool.and_eq_true, List.all_eq_true, Bool.not_eq_true'] at hk
    obtain ⟨⟨hs, hne⟩, hks⟩ := hk
    simp only [List.zip_cons_cons, List.mem_cons] at h
    rw [presentOf_cons]
    rcases h with rfl | h
    · cases g with
      | none =>
        simp only [List.nil_append]
        exact dictGet_presentOf_none k0 ks gs (fun k' hk' => (hne k' hk').2)
      | some w => simp [dictGet, pyEq_str_refl k0 hs]
    · have hmem : kg.1 ∈ ks := (List.of_mem_zip h).1
      have ih := dictGet_presentOf ks gs hks kg h
      cases g with
      | none => simpa using ih
      | some w => simp [dictGet, (hne kg.1 hmem).1, ih]

theorem presentOf_keys (keys : List PyVal) (got : List (Option PyVal)) :
    ∀ p ∈ presentOf keys got, p.1 ∈ keys := by
  intro p hp
  simp only [presentOf, List.mem_filterMap] at hp
  obtain ⟨kg, hkg, hm⟩ := hp
  cases hg : kg.2 <;> simp [hg] at hm
  subst hm
  exact (List.of_mem_zip hkg).1

theorem keysOKb_refl : ∀ (keys : List PyVal), keysOKb keys = true → ∀ k ∈ keys, pyEq k k = true
  | [], _, k, hk => by simp at hk
  | k0 :: ks, h, k, hk => by
    simp only [keysOKb, Bool.and_eq_true] at h
    simp only [List.mem_cons] at hk
    rcases hk with rfl | hk
    · exact pyEq_str_refl _ h.1.1
    · exact keysOKb_refl ks h.2 k hk

theorem presentOf_no_unknown (keys : List PyVal) (got : List (Option PyVal)) (hk : keysOKb keys = true) :
    hasUnknownKey keys (presentOf keys got) = false := by
  simp only [hasUnknownKey, List.any_eq_false, Bool.not_eq_true', Bool.not_eq_false]
  intro p hp
  have hmem := presentOf_keys keys got p hp
  simp only [memL, List.any_eq_true]
  exact ⟨p.1, hmem, keysOKb_refl keys hk p.1 hmem⟩

theorem RecL.fixed {vid vid' : Nat} {dv dv' : PyVal} {data data' : List (PyVal × PyVal)} {evs keys reqs r}
    (h : RecL vid dv data evs keys reqs r) : r.r = none → r.ks = [] →
    (∀ kg ∈ keys.zip r.got, dictGet data' kg.1 = kg.2) → (∀ ev ∈ evs, PayloadsFixed ev) →
    ∃ t', RecL vid' dv' data' evs keys reqs ⟨r.got, [], [], t', none⟩ := by
  induction h with
  | done h => exact fun _ _ _ _ => ⟨[], .done h⟩
  | missing => exact fun _ hks => nomatch hks
  | invalid => exact fun _ hks => nomatch hks
  | raised => exact fun hr => nomatch hr
  | @absent ev evs k ks reqs r hd _ ih =>
    intro hr hks hget hfix
    obtain ⟨t', ht'⟩ := ih hr hks (fun kg hkg => hget kg (List.mem_cons_of_mem _ hkg)) (fun e he => hfix e (List.mem_cons_of_mem _ he))
    exact ⟨t', .absent (hget (k, none) List.mem_cons_self) ht'⟩
  | @valid ev evs k ks req reqs xv w t r hd hx _ ih =>
    intro hr hks hget hfix
    obtain ⟨t', ht'⟩ := ih hr hks (fun kg hkg => hget kg (List.mem_cons_of_mem _ hkg)) (fun e he => hfix e (List.mem_cons_of_mem _ he))
    obtain ⟨u', hu'⟩ := hfix ev List.mem_cons_self xv w t hx
    exact ⟨u' ++ t', .valid (hget (k, some w) List.mem_cons_self) hu' ht'⟩

theorem recLoop_fixed {dv0 : PyVal} {vidn : Nat} {data : List (PyVal × PyVal)} (dv' : PyVal) (data' : List (PyVal × PyVal)) :
    ∀ {evs keys reqs got ks errs t}, RecRun vidn dv0 data evs keys reqs got ks errs t → ks = [] →
    (∀ kg ∈ keys.zip got, dictGet data' kg.1 = kg.2) →
    (∀ ev ∈ evs, ∀ x w u, ev x = some (.valid w, u) → ∃ u', ev w = some (.valid w, u')) →
    ∃ t', recLoop vidn dv' data' evs keys reqs = some ⟨got, [], [], t', none⟩ :=
  fun h hks hget hfix => (h.recL.fixed rfl hks hget hfix).imp fun _ => RecL.loop

/-- outcome of everything after the key loop, when no key failed: it depends on the payload slots only -/
def recTailOut (m : Mode) (vid : Nat) (cfg : RecCfg) (got : List (Option PyVal)) : Out :=
  match (runObjCheck cfg.oc vid (recBuild cfg got)).1 with
  | .valid _ => (runAObjCheck m cfg.aoc vid (recBuild cfg got)).1
  | other => other

theorem recFinish_out (m : Mode) (vid : Nat) (cfg : RecCfg) (y : PyVal) (t : List Ev) (r : RecR)
    (h1 : r.r = none) (h2 : r.ks = []) : (recFinish m vid cfg y t r).1 = recTailOut m vid cfg r.got := by
  simp only [recFinish, h1, h2, List.isEmpty_nil, Bool.not_true, Bool.false_eq_true, if_false, recTailOut]
  cases (runObjCheck cfg.oc vid (recBuild cfg r.got)).1 <;> rfl

theorem recTailOut_valid (m : Mode) (vid : Nat) (cfg : RecCfg) (got : List (Option PyVal)) (w : PyVal)
    (h : recTailOut m vid cfg got = .valid w) : w = recBuild cfg got := by
  -- the sync check passed, so the outcome is the async check's, which returns the object it was given or rejects
  unfold recTailOut runAObjCheck at h
  split at h
  · split at h
    · split at h
      · exact (Out.valid.inj h).symm
      · cases h
    · exact (Out.valid.inj h).symm
  · rename_i hne
    exact (hne w h).elim

theorem recordStep_valid_inv {o : Oracle} {m : Mode} {vid : Nat} {cfg : RecCfg} {evs : List Ev1} {x w : PyVal} {t : List Ev}
    (h : recordStep o m vid cfg evs x = some (.valid w, t)) :
    ∃ y data l, ¬ (m = .sync ∧ cfg.aoc.isSome) ∧ RecL vid y data evs cfg.keys cfg.reqs l ∧ l.r = none ∧ l.ks = [] ∧
      recTailOut m vid cfg l.got = .valid w ∧ w = recBuild cfg l.got := by
  rcases recordStep_some.1 h with hp | ⟨y, data, t0, l, hp, hl, hpq⟩
  · exact absurd rfl ((recPre_eq_iff.1 hp).inl_not_valid w)
  · have hout : (recFinish m vid cfg y t0 l).1 = .valid w := by rw [← hpq]
    obtain ⟨hrn, hks⟩ := recFinish_valid hout
    rw [recFinish_out m vid cfg y t0 l hrn hks] at hout
    exact ⟨y, data, l, ((C04_pre_iff ..).1 hp).1, hl, hrn, hks, hout, recTailOut_valid m vid cfg l.got w hout⟩

/-- the second pass: the object built passes the gate again as a dict `y'` holding the present keys with their
    payloads, so the key loop finds each payload under its key -/
theorem recordStep_fixed_of_gate (o : Oracle) (m : Mode) (vid : Nat) (cfg : RecCfg) (evs : List Ev1) (w : PyVal)
    {y : PyVal} {data : List (PyVal × PyVal)} {l : RecR}
    (hguard : ¬ (m = .sync ∧ cfg.aoc.isSome)) (hl : RecL vid y data evs cfg.keys cfg.reqs l) (hrn : l.r = none)
    (hks : l.ks = []) (hout : recTailOut m vid cfg l.got = .valid w) (hkeys : keysOKb cfg.keys = true)
    {y' : PyVal} (hgate : recGate o cfg w = .acc y' []) (hdata : dictItems y' = some (presentOf cfg.keys l.got))
    (hfix : ∀ ev ∈ evs, PayloadsFixed ev) :
    ∃ t', recordStep o m vid cfg evs w = some (.valid w, t') := by
  have hpre : recPre o m vid cfg w = .inr (y', presentOf cfg.keys l.got, []) :=
    (C04_pre_iff ..).2 ⟨hguard, hgate, hdata, by simp [presentOf_no_unknown cfg.keys l.got hkeys]⟩
  obtain ⟨t', ht'⟩ := hl.fixed (vid' := vid) (dv' := y') hrn hks (dictGet_presentOf cfg.keys l.got hkeys) hfix
  refine ⟨_, recordStep_some.2 (.inr ⟨_, _, _, _, hpre, ht', Prod.ext ?_ rfl⟩)⟩
  rw [← hout, ← recFinish_out m vid cfg y' [] ⟨l.got, [], [], t', none⟩ rfl rfl]

/-- **C17, dict-shaped records** (DictValidatorAny, TypedDictValidator without coercer): string keys,
    pairwise different -/
theorem C17_dictrecord_fixed (o : Oracle) (m : Mode) (vid : Nat) (cfg : RecCfg) (evs : List Ev1) (x w : PyVal)
    (t : List Ev) (hkind : cfg.kind = .dictAny ∨ (cfg.kind = .typeddict ∧ cfg.coerce = none))
    (hkeys : keysOKb cfg.keys = true) (h : recordStep o m vid cfg evs x = some (.valid w, t))
    (hfix : ∀ ev ∈ evs, PayloadsFixed ev) :
    ∃ t', recordStep o m vid cfg evs w = some (.valid w, t') := by
  obtain ⟨y, data, l, hguard, hl, hrn, hks, hout, hw⟩ := recordStep_valid_inv h
  have hwd : w = .dict 0 (presentOf cfg.keys l.got) :=
    hw.trans (C04_payload_dict cfg l.got (hkind.imp_right And.left))
  refine recordStep_fixed_of_gate o m vid cfg evs w hguard hl hrn hks hout hkeys (y' := w) ?_ (by rw [hwd]; rfl) hfix
  rw [hwd]
  rcases hkind with hk | ⟨hk, hc⟩
  · simp [recGate, hk, PyVal.ty]
  · simp [recGate, hk, hc, PyVal.ty]

theorem presentOf_all_some : ∀ (keys vals : List PyVal), presentOf keys (vals.map some) = keys.zip vals
  | [], _ => by simp [presentOf]
  | _ :: _, [] => by simp [presentOf]
  | k :: ks, v :: vs => by
    have ih := presentOf_all_some ks vs
    rw [List.map_cons, presentOf_cons]
    simp [ih]

theorem RecRun_allreq_some {vid dv data} : ∀ {evs keys reqs got ks errs t},
    RecRun vid dv data evs keys reqs got ks errs t → ks = [] → reqs.all id = true → ∀ g ∈ got, g.isSome = true := by
  intro evs keys reqs got ks errs t h
  induction h with
  | nil => exact fun _ _ _ hg => nomatch hg
  | missing => exact fun hks => nomatch hks
  | invalid => exact fun hks => nomatch hks
  | absentOpt => exact fun _ hr => nomatch hr
  | valid _ _ _ ih =>
    intro hks hr g hg
    simp only [List.all_cons, Bool.and_eq_true] at hr
    rcases List.mem_cons.1 hg with rfl | hg
    · rfl
    · exact ih hks hr.2 g hg

theorem construct_vals (f : PyVal → Option PyVal) : ∀ (names : List String) (defaults : List (Option PyVal))
    (got : List (Option PyVal)), names.length = defaults.length → names.length = got.length →
    (∀ g ∈ got, g.isSome = true) → (∀ kg ∈ (names.map keyStr).zip got, f kg.1 = kg.2) →
    ((names.zip defaults).map (fun nd => match f (keyStr nd.1) with | some v => v | none => nd.2.getD .none)).map some = got
  | [], _, [], _, _, _, _ => rfl
  | [], _, _ :: _, _, h2, _, _ => nomatch h2
  | _ :: _, [], _, h1, _, _, _ => nomatch h1
  | _ :: _, _ :: _, [], _, h2, _, _ => nomatch h2
  | n :: ns, d :: ds, g :: gs, h1, h2, hs, hf => by
    have hg : f (keyStr n) = g := hf (keyStr n, g) List.mem_cons_self
    obtain ⟨w, rfl⟩ := Option.isSome_iff_exists.1 (hs g List.mem_cons_self)
    simp only [List.zip_cons_cons, List.map_cons, hg]
    rw [construct_vals f ns ds gs (Nat.succ.inj h1) (Nat.succ.inj h2) (fun g' hg' => hs g' (List.mem_cons_of_mem _ hg'))
      (fun kg hkg => hf kg (List.mem_cons_of_mem _ hkg))]

/-- **C17, class records** (DataclassValidator / NamedTupleValidator without coercer, every field required):
    the instance built is accepted unchanged -/
theorem C17_classrecord_fixed (o : Oracle) (m : Mode) (vid : Nat) (cfg : RecCfg) (evs : List Ev1) (x w : PyVal)
    (t : List Ev) (hkind : cfg.kind = .dataclass ∨ cfg.kind = .namedtuple) (hco : cfg.coerce = none)
    (hkeys : keysOKb cfg.keys = true) (hkn : cfg.keys = cfg.fieldNames.map keyStr)
    (hdl : cfg.fieldNames.length = cfg.defaults.length) (hreq : cfg.reqs.all id = true)
    (hl1 : evs.length = cfg.keys.length) (hl2 : cfg.keys.length = cfg.reqs.length)
    (h : recordStep o m vid cfg evs x = some (.valid w, t)) (hfix : ∀ ev ∈ evs, PayloadsFixed ev) :
    ∃ t', recordStep o m vid cfg evs w = some (.valid w, t') := by
  obtain ⟨y, data, l, hguard, hl, hrn, hks, hout, hw⟩ := recordStep_valid_inv h
  have hrun := hks ▸ hl.run hl1 hl2 hrn
  have hgl : cfg.fieldNames.length = l.got.length := by
    rw [hrun.errs_length.2, hkn, List.length_map]
  let vals := (cfg.fieldNames.zip cfg.defaults).map (fun nd =>
    match dictGet (presentOf cfg.keys l.got) (keyStr nd.1) with | some v => v | none => nd.2.getD .none)
  have hvals : vals.map some = l.got :=
    construct_vals (dictGet (presentOf cfg.keys l.got)) cfg.fieldNames cfg.defaults l.got hdl hgl
      (RecRun_allreq_some hrun rfl hreq) (hkn ▸ dictGet_presentOf cfg.keys l.got hkeys)
  have hwd : w = .inst 0 0 cfg.cls cfg.fieldNames vals := hw.trans (C04_payload_class cfg l.got hkind)
  refine recordStep_fixed_of_gate o m vid cfg evs w hguard hl hrn hks hout hkeys (y' := instDict 0 cfg.fieldNames vals) ?_ ?_ hfix
  · rw [hwd]
    rcases hkind with hk | hk <;> simp [recGate, hk, hco, PyVal.ty]
  · rw [← hvals, presentOf_all_some, hkn]
    rfl

end Koda
