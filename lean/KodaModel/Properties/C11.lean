/-
  C11 — the generated JSON Schema accepts exactly the JSON values the validator accepts.

  `DecidesAt root ref j N x b`: from fuel `N` on, the schema `j` evaluates to `b` on `x`.  The theorems take what
  the schemas of the children decide and conclude what the schema of a validator decides, kind by kind.  Here: the
  equations of `evalKw` / `typeOk`, objects built by `predsSchema` from a base with a `type`, scalars, and the
  keywords of the individual predicates (`PredOK_*`).
-/
import KodaModel.SchemaEval
import KodaModel.Properties.C02
import KodaModel.Properties.C10
import KodaModel.Properties.C11Pat

namespace Koda

theorem OB_and_some (a b : Bool) : OB.and (some a) (some b) = some (a && b) := rfl

theorem OB_and_eq_some {a b : Option Bool} {c : Bool} (h : OB.and a b = some c) :
    ∃ x y, a = some x ∧ b = some y ∧ c = (x && y) := by
  cases a <;> cases b <;> cases h
  exact ⟨_, _, rfl, rfl, rfl⟩

theorem OB_and_assoc (a b c : Option Bool) : OB.and (OB.and a b) c = OB.and a (OB.and b c) := by
  cases a <;> cases b <;> cases c <;> simp [OB.and, Bool.and_assoc]

theorem allM_cons_some {α : Type} (f : α → Option Bool) (a : α) (l : List α) (x y : Bool) (ha : f a = some x)
    (hl : allM f l = some y) : allM f (a :: l) = some (x && y) := by
  rw [allM, ha, hl, OB_and_some]

theorem allM_one {α : Type} (f : α → Option Bool) (a : α) (x : Bool) (ha : f a = some x) : allM f [a] = some x := by
  rw [allM_cons_some f a [] x true ha rfl, Bool.and_true]

theorem allM_two {α : Type} (f : α → Option Bool) (a b : α) (x y : Bool) (ha : f a = some x) (hb : f b = some y) :
    allM f [a, b] = some (x && y) :=
  allM_cons_some f a [b] x y ha (allM_one f b y hb)

theorem allM_eq_some_all {α : Type} (f : α → Option Bool) (g : α → Bool) :
    ∀ (l : List α), (∀ x ∈ l, f x = some (g x)) → allM f l = some (l.all g)
  | [], _ => rfl
  | x :: xs, h => by
    rw [List.all_cons]
    exact allM_cons_some f x xs _ _ (h x List.mem_cons_self)
      (allM_eq_some_all f g xs fun y hy => h y (List.mem_cons_of_mem x hy))

theorem allM_append {α : Type} (f : α → Option Bool) (a b : List α) :
    allM f (a ++ b) = OB.and (allM f a) (allM f b) := by
  induction a with
  | nil => simp only [List.nil_append, allM]; cases allM f b <;> rfl
  | cons x xs ih =>
    simp only [List.cons_append, allM, ih, OB_and_assoc]

theorem allM_congr {α : Type} (f g : α → Option Bool) (l : List α) (h : ∀ x ∈ l, f x = g x) :
    allM f l = allM g l := by
  induction l with
  | nil => rfl
  | cons x xs ih => simp only [allM, h x (by simp), ih (fun y hy => h y (by simp [hy]))]

theorem countM_eq_some {α : Type} (f : α → Option Bool) (g : α → Bool) :
    ∀ (l : List α), (∀ x ∈ l, f x = some (g x)) → countM f l = some (l.countP g) := by
  intro l
  induction l with
  | nil => intro _; rfl
  | cons x xs ih =>
    intro h
    simp only [countM, h x (by simp), ih (fun y hy => h y (by simp [hy])), List.countP_cons]
    cases g x <;> simp

def hasKey (o : JObj) (k : List Nat) : Bool := o.any (fun q => q.1 == k)

def keysNodup : JObj → Bool
  | [] => true
  | (k, _) :: rest => !hasKey rest k && keysNodup rest

theorem hasKey_nil (k : List Nat) : hasKey [] k = false := rfl

theorem hasKey_cons (a : String) (v : J) (o : JObj) (k : String) :
    hasKey ((kw a, v) :: o) (kw k) = (decide (a = k) || hasKey o (kw k)) := by
  simp only [hasKey, List.any_cons, kw_beq]

theorem hasKey_append (a b : JObj) (k : List Nat) : hasKey (a ++ b) k = (hasKey a k || hasKey b k) := by
  simp [hasKey]

theorem find_none_hasKey (o : JObj) (k : List Nat) : o.find? (fun q => q.1 == k) = none ↔ hasKey o k = false := by
  simp [hasKey, List.find?_eq_none]

theorem jGet_none_iff (o : JObj) (k : String) : jGet o k = none ↔ hasKey o (kw k) = false := by
  rw [jGet, Option.map_eq_none_iff, find_none_hasKey]

theorem jGet_nil (k : String) : jGet [] k = none := rfl

theorem jGet_cons (a : String) (v : J) (o : JObj) (k : String) :
    jGet ((kw a, v) :: o) k = if a = k then some v else jGet o k := by
  simp only [jGet, List.find?_cons, kw_beq]
  by_cases h : a = k <;> simp only [h, decide_true, decide_false, if_true, if_false, Option.map_some]

theorem jGet_append_absent (a b : JObj) (k : String) (h : hasKey b (kw k) = false) : jGet (a ++ b) k = jGet a k := by
  simp only [jGet, List.find?_append]
  have : b.find? (fun p => p.1 == kw k) = none := (find_none_hasKey b (kw k)).2 h
  simp [this]

theorem jset_absent (o : JObj) (k : List Nat) (v : J) (h : hasKey o k = false) : jset o k v = o ++ [(k, v)] := by
  induction o with
  | nil => rfl
  | cons p ps ih =>
    obtain ⟨k0, v0⟩ := p
    simp only [hasKey, List.any_cons, Bool.or_eq_false_iff] at h
    simp only [jset, h.1, Bool.false_eq_true, if_false, List.cons_append, ih h.2]

theorem jGet_jset_ne (o : JObj) (k : List Nat) (v : J) (k' : String) (h : k ≠ kw k') :
    jGet (jset o k v) k' = jGet o k' := by
  have hk : (k == kw k') = false := beq_eq_false_iff_ne.2 h
  induction o with
  | nil => simp only [jset, jGet, List.find?_cons, hk]
  | cons p ps ih =>
    rw [jset]
    split
    · rename_i heq
      simp only [jGet, List.find?_cons, beq_iff_eq.1 heq, hk]
    · simp only [jGet, List.find?_cons]
      cases p.1 == kw k'
      · exact ih
      · rfl

theorem jGet_jset_eq (o : JObj) (k : String) (v : J) : jGet (jset o (kw k) v) k = some v := by
  induction o with
  | nil => simp only [jset, jGet, List.find?_cons, beq_self_eq_true, Option.map_some]
  | cons p ps ih =>
    rw [jset]
    split
    · rename_i heq
      simp only [jGet, List.find?_cons, heq, Option.map_some]
    · rename_i hne
      simp only [jGet, List.find?_cons, hne] at ih ⊢
      exact ih

theorem jupdate_absent (b : JObj) : ∀ (a : JObj), (∀ e ∈ b, hasKey a e.1 = false) → keysNodup b = true →
    jupdate a b = a ++ b := by
  induction b with
  | nil => intro a _ _; exact (List.append_nil a).symm
  | cons e es ih =>
    intro a h hn
    simp only [keysNodup, Bool.and_eq_true, Bool.not_eq_true', hasKey, List.any_eq_false] at hn
    rw [jupdate, List.foldl_cons, jset_absent a _ _ (h e List.mem_cons_self)]
    refine (ih _ (fun e' he' => ?_) hn.2).trans (List.append_assoc a [e] es)
    -- `e'.1` is not the key of `e`, which does not occur among the keys of `es`
    rw [hasKey_append, h e' (List.mem_cons_of_mem e he'), hasKey, List.any_cons, List.any_nil, Bool.or_false,
      Bool.false_or, Bool.eq_false_iff, ne_eq, beq_iff_eq]
    exact fun hk => hn.1 e' he' (by rw [beq_iff_eq, hk])

theorem allM_jset_replace (f : List Nat × J → Option Bool) (k : List Nat) (v : J) (e : Bool) :
    ∀ (o : JObj) (q : List Nat × J) (b : Bool), o.find? (fun q => q.1 == k) = some q →
      (∀ b0, f q = some b0 → f (q.1, v) = some (b0 && e)) → allM f o = some b →
      allM f (jset o k v) = some (b && e)
  | (kp, vp) :: ps, q, b, hf, h1, hb => by
    obtain ⟨bp, br, hp, hr, rfl⟩ := OB_and_eq_some hb
    rw [jset]
    cases hk : kp == k <;> simp only [List.find?_cons, hk] at hf
    · rw [if_neg Bool.false_ne_true, allM_cons_some f _ _ _ _ hp (allM_jset_replace f k v e ps q br hf h1 hr),
        Bool.and_assoc]
    · cases hf
      rw [if_pos rfl, allM_cons_some f _ _ _ _ (h1 bp hp) hr, Bool.and_right_comm]

/-! Keywords are compared as string literals (`kw_beq`, `String.reduceEq`), never by unfolding `kw`. -/

theorem kw_ne {a b : String} (h : a ≠ b) : kw a ≠ kw b := fun e => h (kw_inj.1 e)

/-- the only things a keyword reads from its siblings -/
theorem evalKw_congr (ev : J → PyVal → Option Bool) (root : J) (ref : Option (List Nat)) (o o' : JObj)
    (h1 : jGet o "properties" = jGet o' "properties") (h2 : jGet o "prefixItems" = jGet o' "prefixItems")
    (k : List Nat) (v : J) (x : PyVal) :
    evalKw ev root ref o k v x = evalKw ev root ref o' k v x := by
  have hp : propNames o = propNames o' := by simp only [propNames, h1]
  have hl : prefixLen o = prefixLen o' := by simp only [prefixLen, h2]
  unfold evalKw
  rw [hp, hl]

section
variable (ev : J → PyVal → Option Bool) (root : J) (ref : Option (List Nat)) (o : JObj)

theorem evalKw_type (t : List Nat) (x : PyVal) : evalKw ev root ref o (kw "type") (.str t) x = typeOk t x := by
  unfold evalKw
  simp only [kw_beq, decide_true, ↓reduceIte]

theorem evalKw_nullable (c : Bool) (x : PyVal) : evalKw ev root ref o (kw "nullable") (.bool c) x = some true := by
  unfold evalKw
  simp only [kw_beq, String.reduceEq, decide_false, decide_true, ↓reduceIte, Bool.false_eq_true]

theorem evalKw_nullable_some (v : J) (x : PyVal) (b : Bool) (h : evalKw ev root ref o (kw "nullable") v x = some b) :
    b = true := by
  unfold evalKw at h
  simp only [kw_beq, String.reduceEq, decide_false, decide_true, ↓reduceIte, Bool.false_eq_true] at h
  split at h
  · exact (Option.some.inj h).symm
  · cases h

theorem evalKw_description (v : J) (x : PyVal) : evalKw ev root ref o (kw "description") v x = some true := by
  unfold evalKw
  simp only [kw_beq, String.reduceEq, decide_false, decide_true, ↓reduceIte, Bool.false_eq_true, Bool.or_true,
    Bool.true_or]

theorem evalKw_additionalItems (v : J) (x : PyVal) : evalKw ev root ref o (kw "additionalItems") v x = some true := by
  unfold evalKw
  simp only [kw_beq, String.reduceEq, decide_false, decide_true, ↓reduceIte, Bool.false_eq_true, Bool.or_true]

theorem evalKw_enum (js : List J) (x : PyVal) : evalKw ev root ref o (kw "enum") (.arr js) x = enumHolds js x := by
  unfold evalKw
  simp only [kw_beq, String.reduceEq, decide_false, decide_true, ↓reduceIte, Bool.false_eq_true, Bool.or_false]

theorem evalKw_minLength (n : Int) (s : List Nat) :
    evalKw ev root ref o (kw "minLength") (.int n) (.str s) = some (decide ((s.length : Int) ≥ n)) := by
  unfold evalKw
  simp only [kw_beq, String.reduceEq, decide_false, decide_true, ↓reduceIte, Bool.false_eq_true, Bool.or_false]

theorem evalKw_maxLength (n : Int) (s : List Nat) :
    evalKw ev root ref o (kw "maxLength") (.int n) (.str s) = some (decide ((s.length : Int) ≤ n)) := by
  unfold evalKw
  simp only [kw_beq, String.reduceEq, decide_false, decide_true, ↓reduceIte, Bool.false_eq_true, Bool.or_false]

theorem evalKw_pattern (t s : List Nat) : evalKw ev root ref o (kw "pattern") (.str t) (.str s) = patHolds t s := by
  unfold evalKw
  simp only [kw_beq, String.reduceEq, decide_false, decide_true, ↓reduceIte, Bool.false_eq_true, Bool.or_false]

theorem evalKw_minimum (v : J) (x : PyVal) : evalKw ev root ref o (kw "minimum") v x = boundHolds v x pyLe := by
  unfold evalKw
  simp only [kw_beq, String.reduceEq, decide_false, decide_true, ↓reduceIte, Bool.false_eq_true, Bool.or_false]

theorem evalKw_exclusiveMinimum (v : J) (x : PyVal) :
    evalKw ev root ref o (kw "exclusiveMinimum") v x = boundHolds v x pyLt := by
  unfold evalKw
  simp only [kw_beq, String.reduceEq, decide_false, decide_true, ↓reduceIte, Bool.false_eq_true, Bool.or_false]

theorem evalKw_maximum (v : J) (x : PyVal) :
    evalKw ev root ref o (kw "maximum") v x = boundHolds v x (fun b y => pyLe y b) := by
  unfold evalKw
  simp only [kw_beq, String.reduceEq, decide_false, decide_true, ↓reduceIte, Bool.false_eq_true, Bool.or_false]

theorem evalKw_exclusiveMaximum (v : J) (x : PyVal) :
    evalKw ev root ref o (kw "exclusiveMaximum") v x = boundHolds v x (fun b y => pyLt y b) := by
  unfold evalKw
  simp only [kw_beq, String.reduceEq, decide_false, decide_true, ↓reduceIte, Bool.false_eq_true, Bool.or_false]

theorem evalKw_minItems (n : Int) (oid : Nat) (xs : List PyVal) :
    evalKw ev root ref o (kw "minItems") (.int n) (.list oid xs) = some (decide ((xs.length : Int) ≥ n)) := by
  unfold evalKw
  simp only [kw_beq, String.reduceEq, decide_false, decide_true, ↓reduceIte, Bool.false_eq_true, Bool.or_false]

theorem evalKw_maxItems (n : Int) (oid : Nat) (xs : List PyVal) :
    evalKw ev root ref o (kw "maxItems") (.int n) (.list oid xs) = some (decide ((xs.length : Int) ≤ n)) := by
  unfold evalKw
  simp only [kw_beq, String.reduceEq, decide_false, decide_true, ↓reduceIte, Bool.false_eq_true, Bool.or_false]

theorem evalKw_uniqueItems (oid : Nat) (xs : List PyVal) :
    evalKw ev root ref o (kw "uniqueItems") (.bool true) (.list oid xs) = some (jsonUnique xs) := by
  unfold evalKw
  simp only [kw_beq, String.reduceEq, decide_false, decide_true, ↓reduceIte, Bool.false_eq_true, Bool.or_false]

theorem evalKw_items (it : J) (oid : Nat) (xs : List PyVal) :
    evalKw ev root ref o (kw "items") it (.list oid xs) = allM (ev it) (xs.drop (prefixLen o)) := by
  unfold evalKw
  simp only [kw_beq, String.reduceEq, decide_false, decide_true, ↓reduceIte, Bool.false_eq_true, Bool.or_false]

theorem evalKw_required (req : List (List Nat)) (oid : Nat) (kvs : List (PyVal × PyVal)) :
    evalKw ev root ref o (kw "required") (.arr (req.map J.str)) (.dict oid kvs) =
      some (req.all (fun nm => dictHas kvs (.str nm))) := by
  unfold evalKw
  simp only [kw_beq, String.reduceEq, decide_false, decide_true, ↓reduceIte, Bool.false_eq_true, Bool.or_false]
  induction req with
  | nil => rfl
  | cons r rs ih => simp only [List.map_cons, allM, ih, List.all_cons, OB_and_some]

theorem evalKw_properties (props : JObj) (oid : Nat) (kvs : List (PyVal × PyVal)) :
    evalKw ev root ref o (kw "properties") (.obj props) (.dict oid kvs) =
      allM (fun p => match dictGet kvs (.str p.1) with | some val => ev p.2 val | none => some true) props := by
  unfold evalKw
  simp only [kw_beq, String.reduceEq, decide_false, decide_true, ↓reduceIte, Bool.false_eq_true, Bool.or_false]
  rfl

theorem evalKw_additionalProperties (v : J) (oid : Nat) (kvs : List (PyVal × PyVal)) :
    evalKw ev root ref o (kw "additionalProperties") v (.dict oid kvs) =
      allM (fun p => match keyText p.1 with
                     | some nm => if (propNames o).contains nm then some true else ev v p.2
                     | none => none) kvs := by
  unfold evalKw
  simp only [kw_beq, String.reduceEq, decide_false, decide_true, ↓reduceIte, Bool.false_eq_true, Bool.or_false]
  rfl

theorem evalKw_allOf (js : List J) (x : PyVal) :
    evalKw ev root ref o (kw "allOf") (.arr js) x = allM (fun j => ev j x) js := by
  unfold evalKw
  simp only [kw_beq, String.reduceEq, decide_false, decide_true, ↓reduceIte, Bool.false_eq_true, Bool.or_false]

end

theorem evalKw_prefixItems (ev : J → PyVal → Option Bool) (root : J) (ref : Option (List Nat)) (o' : JObj) (js : List J) (oid : Nat) (xs : List PyVal) :
    evalKw ev root ref o' (kw "prefixItems") (.arr js) (.list oid xs) = allM (fun p => ev p.1 p.2) (js.zip xs) := by
  unfold evalKw
  simp only [kw_beq, String.reduceEq, decide_false, decide_true, ↓reduceIte, Bool.false_eq_true, Bool.or_false]

theorem evalKw_oneOf (ev : J → PyVal → Option Bool) (root : J) (ref : Option (List Nat)) (o' : JObj) (js : List J) (x : PyVal) :
    evalKw ev root ref o' (kw "oneOf") (.arr js) x = (countM (fun j => ev j x) js).map (fun n => n == 1) := by
  unfold evalKw
  simp only [kw_beq, String.reduceEq, decide_false, decide_true, ↓reduceIte, Bool.false_eq_true, Bool.or_false]

/-- the JSON-native scalar types and their `type` keyword -/
def typeName : Ty → Option String
  | .str => some "string"
  | .int => some "integer"
  | .float => some "number"
  | .bool => some "boolean"
  | _ => none

theorem typeOk_spec (tg : Ty) (t : String) (h : typeName tg = some t) (x : PyVal) :
    typeOk (kw t) x = some (decide (x.ty = tg)) := by
  unfold typeOk
  cases tg <;> cases h <;>
    simp only [kw_beq, String.reduceEq, decide_false, decide_true, ↓reduceIte, Bool.false_eq_true] <;> cases x <;> rfl

def isListV : PyVal → Bool
  | .list _ _ => true
  | _ => false

def listItems : PyVal → List PyVal
  | .list _ xs => xs
  | _ => []

theorem typeOk_array (x : PyVal) : typeOk (kw "array") x = some (isListV x) := by
  unfold typeOk
  simp only [kw_beq, String.reduceEq, decide_false, decide_true, ↓reduceIte, Bool.false_eq_true]
  cases x <;> rfl

theorem isListV_eq {x : PyVal} (h : isListV x = true) : ∃ oid xs, x = .list oid xs := by
  cases x <;> cases h
  exact ⟨_, _, rfl⟩

def isDictV : PyVal → Bool
  | .dict _ _ => true
  | _ => false

def dictKvs : PyVal → List (PyVal × PyVal)
  | .dict _ kvs => kvs
  | _ => []

theorem typeOk_object (x : PyVal) : typeOk (kw "object") x = some (isDictV x) := by
  unfold typeOk
  simp only [kw_beq, String.reduceEq, decide_false, decide_true, ↓reduceIte, Bool.false_eq_true]
  cases x <;> rfl

theorem isDictV_eq {x : PyVal} (h : isDictV x = true) : ∃ oid kvs, x = .dict oid kvs := by
  cases x <;> cases h
  exact ⟨_, _, rfl⟩

/-- the predicate holds (returns True, does not raise) -/
def holds (p : PredK) (x : PyVal) : Bool :=
  match p.call x with
  | .ok true => true
  | _ => false

theorem holds_of_call (p : PredK) (x : PyVal) (b : Bool) (h : p.call x = .ok b) : holds p x = b := by
  simp only [holds, h]; cases b <;> rfl

/-- evaluation of the entries `o` as members of the object `o'` -/
def objEval (root : J) (ref : Option (List Nat)) (n : Nat) (o' o : JObj) (x : PyVal) : Option Bool :=
  allM (fun kv => evalKw (evalSchema root ref n) root ref o' kv.1 kv.2 x) o

theorem objEval_one (ev : J → PyVal → Option Bool) (root : J) (ref : Option (List Nat)) (o' : JObj)
    (k : List Nat) (v : J) (x : PyVal) (b : Bool) (h : evalKw ev root ref o' k v x = some b) :
    allM (fun kv => evalKw ev root ref o' kv.1 kv.2 x) [(k, v)] = some b :=
  allM_one _ (k, v) b h

theorem evalSchema_obj (root : J) (ref : Option (List Nat)) (n : Nat) (o : JObj) (x : PyVal) :
    evalSchema root ref (n + 1) (.obj o) x =
      if isNullable o && isNoneV x then some true
      else if typeFails o x then some false
      else objEval root ref n o o x := rfl

theorem evalSchema_untyped (root : J) (ref : Option (List Nat)) (n : Nat) (o : JObj) (x : PyVal)
    (hn : jGet o "nullable" = none) (ht : jGet o "type" = none) :
    evalSchema root ref (n + 1) (.obj o) x = objEval root ref n o o x := by
  simp only [evalSchema_obj, isNullable, typeFails, hn, ht, Bool.false_and, Bool.false_eq_true, if_false]

theorem evalSchema_typed (root : J) (ref : Option (List Nat)) (n : Nat) (o : JObj) (t : List Nat) (x : PyVal)
    (c b : Bool) (hn : jGet o "nullable" = none) (ht : jGet o "type" = some (.str t)) (hc : typeOk t x = some c)
    (hb : c = true → objEval root ref n o o x = some b) :
    evalSchema root ref (n + 1) (.obj o) x = some (c && b) := by
  simp only [evalSchema_obj, isNullable, typeFails, hn, ht, hc, Bool.false_and, Bool.false_eq_true, if_false]
  cases c
  · rfl
  · exact hb rfl

def DecidesAt (root : J) (ref : Option (List Nat)) (j : J) (N : Nat) (x : PyVal) (b : Bool) : Prop :=
  ∀ n, N ≤ n → evalSchema root ref n j x = some b

theorem DecidesAt.mono {root : J} {ref : Option (List Nat)} {j : J} {N M : Nat} {x : PyVal} {b : Bool}
    (h : DecidesAt root ref j N x b) (hm : N ≤ M) : DecidesAt root ref j M x b :=
  fun n hn => h n (Nat.le_trans hm hn)

/-- the schema emitted for `p` is right on `x`: its keywords do not touch `nullable` / `allOf` / `type`, they are
    pairwise distinct, and together they evaluate to "`p` holds on `x`" -/
def PredOK (pr : Printer) (root : J) (ref : Option (List Nat)) (p : PredK) (x : PyVal) : Prop :=
  ∀ po, predSchema pr p = .ok po →
    keysNodup po = true ∧ hasKey po (kw "nullable") = false ∧ hasKey po (kw "allOf") = false ∧
    hasKey po (kw "type") = false ∧
    ∀ ev o', allM (fun kv => evalKw ev root ref o' kv.1 kv.2 x) po = some (holds p x)

theorem keys_single (s : String) (v : J)
    (h : s ≠ "type" ∧ s ≠ "nullable" ∧ s ≠ "allOf" ∧ s ≠ "properties" ∧ s ≠ "prefixItems" := by
      simp only [ne_eq, Bool.false_eq_true, ↓reduceIte, String.reduceEq, not_false_eq_true, and_self]) :
    hasKey [(kw s, v)] (kw "type") = false ∧ hasKey [(kw s, v)] (kw "nullable") = false ∧
    hasKey [(kw s, v)] (kw "allOf") = false ∧ keysNodup [(kw s, v)] = true ∧
    hasKey [(kw s, v)] (kw "properties") = false ∧ hasKey [(kw s, v)] (kw "prefixItems") = false := by
  obtain ⟨h1, h2, h3, h4, h5⟩ := h
  simp only [keysNodup, hasKey_cons, hasKey_nil, h1, h2, h3, h4, h5, decide_false, Bool.or_false, Bool.not_false,
    Bool.and_self, and_self]

/-- each predicate emits a single keyword, `ExactLength` emits `minLength` and `maxLength` -/
theorem predSchema_keys (pr : Printer) (p : PredK) (po : JObj) (h : predSchema pr p = .ok po) :
    hasKey po (kw "type") = false ∧ hasKey po (kw "nullable") = false ∧ hasKey po (kw "allOf") = false ∧
    keysNodup po = true ∧ hasKey po (kw "properties") = false ∧ hasKey po (kw "prefixItems") = false := by
  cases p with
  | min v e | max v e => rcases boundSchema_ok h with ⟨_, t, rfl⟩ | ⟨_, rfl⟩ <;> cases e <;> exact keys_single _ _
  | equalTo v =>
    simp only [predSchema] at h
    split at h
    · cases h; exact keys_single _ _
    · cases h
  | choices vs =>
    simp only [predSchema] at h
    split at h
    · split at h
      · cases h; exact keys_single _ _
      · cases h
    · cases h
  | startsWith q => obtain ⟨s, rfl⟩ := predSchema_affix pr q po (.inl h); exact keys_single _ _
  | endsWith q => obtain ⟨s, rfl⟩ := predSchema_affix pr q po (.inr h); exact keys_single _ _
  | multipleOf f => cases h
  | exactItemCount n => cases h
  | user f => cases h
  | exactLength n =>
    cases h
    simp only [keysNodup, hasKey_cons, hasKey_nil, String.reduceEq, decide_false, Bool.or_false, Bool.not_false,
      Bool.and_self, and_self]
  | _ => cases h; exact keys_single _ _

theorem PredOK_of_sem (pr : Printer) (root : J) (ref : Option (List Nat)) (p : PredK) (x : PyVal)
    (h : ∀ po, predSchema pr p = .ok po → ∀ (ev : J → PyVal → Option Bool) (o' : JObj),
      allM (fun kv => evalKw ev root ref o' kv.1 kv.2 x) po = some (holds p x)) : PredOK pr root ref p x := by
  intro po hpo
  obtain ⟨h1, h2, h3, h4, _, _⟩ := predSchema_keys pr p po hpo
  exact ⟨h4, h2, h3, h1, h po hpo⟩

/-- an enclosing object that has neither `properties` nor `prefixItems` (so `additionalProperties` ranges
    over every member and `items` over every element) -/
def Good (o' : JObj) : Prop := jGet o' "properties" = none ∧ jGet o' "prefixItems" = none

theorem prefixLen_good (o' : JObj) (h : Good o') : prefixLen o' = 0 := by
  simp [prefixLen, h.2]

theorem propNames_good (o' : JObj) (h : Good o') : propNames o' = [] := by
  simp [propNames, h.1]

/-- the accumulated object: evaluates to `b` (at every fuel ≥ `N`, as part of any `Good` object), is not
    nullable, and its `allOf`, if any, is an array -/
structure AccSem (root : J) (ref : Option (List Nat)) (N : Nat) (acc : JObj) (b : Bool) (x : PyVal) : Prop where
  pos : 1 ≤ N
  sem : ∀ n, N ≤ n → ∀ o', Good o' → objEval root ref n o' acc x = some b
  notNullable : hasKey acc (kw "nullable") = false
  allOfArr : ∀ e ∈ acc, (e.1 == kw "allOf") = true → ∃ xs, e.2 = .arr xs

theorem AccSem_base {root : J} {ref : Option (List Nat)} {N : Nat} {acc : JObj} {b : Bool} {x : PyVal} (hN : 1 ≤ N)
    (hn : jGet acc "nullable" = none) (ha : jGet acc "allOf" = none)
    (h : ∀ n, N ≤ n → ∀ o', Good o' → objEval root ref n o' acc x = some b) : AccSem root ref N acc b x :=
  ⟨hN, h, (jGet_none_iff acc "nullable").1 hn, fun e he hk =>
    absurd hk (List.any_eq_false.1 ((jGet_none_iff acc "allOf").1 ha) e he)⟩

theorem AccSem_jset_allOf {root : J} {ref : Option (List Nat)} {N : Nat} {acc : JObj} {b : Bool} {x : PyVal}
    (ha : AccSem root ref N acc b x) (ys : List J) (c : Bool)
    (h : ∀ n, N ≤ n → ∀ o', Good o' → objEval root ref n o' (jset acc (kw "allOf") (.arr ys)) x = some c) :
    AccSem root ref N (jset acc (kw "allOf") (.arr ys)) c x :=
  ⟨ha.pos, h,
   List.any_eq_false.2 fun e he hk => (mem_jset _ _ _ _ he).elim (fun h => List.any_eq_false.1 ha.notNullable e h hk)
     fun h => absurd ((beq_iff_eq.1 h.1).symm.trans (beq_iff_eq.1 hk)) (kw_ne (by simp only [ne_eq, String.reduceEq, not_false_eq_true])),
   fun e he hk => (mem_jset _ _ _ _ he).elim (fun h => ha.allOfArr e h hk) fun h => ⟨ys, h.2⟩⟩

theorem AccSem_step (pr : Printer) (root : J) (ref : Option (List Nat)) (N : Nat) (acc : JObj) (b : Bool) (x : PyVal)
    (p : PredK) (po : JObj) (ha : AccSem root ref N acc b x) (hp : PredOK pr root ref p x)
    (hpo : predSchema pr p = .ok po) : AccSem root ref N (jaddPred acc po) (b && holds p x) x := by
  obtain ⟨hnd, hnn, hna, hnt, hsem⟩ := hp po hpo
  unfold jaddPred
  split
  · -- a keyword is already set: the predicate's object is appended to the array under `allOf`
    have hpoEval : ∀ n, N ≤ n → evalSchema root ref n (.obj po) x = some (holds p x) := by
      intro n hn
      obtain ⟨m, rfl⟩ : ∃ m, n = m + 1 := ⟨n - 1, by have := ha.pos; omega⟩
      rw [evalSchema_untyped root ref m po x ((jGet_none_iff po "nullable").2 hnn) ((jGet_none_iff po "type").2 hnt)]
      exact hsem _ _
    cases hf : acc.find? (fun q => q.1 == kw "allOf") with
    | none =>
      refine AccSem_jset_allOf ha _ _ fun n hn o' hg => ?_
      rw [jset_absent acc _ _ ((find_none_hasKey acc _).1 hf), objEval, allM_append, ← objEval, ha.sem n hn o' hg,
        allM_one _ _ _ (by rw [evalKw_allOf]; exact allM_one (fun j => evalSchema root ref n j x) _ _ (hpoEval n hn)),
        OB_and_some]
    | some e =>
      -- the entry found is `allOf: xs`, an array by the invariant
      have hk := List.find?_some hf
      obtain ⟨k0, v0⟩ := e
      obtain ⟨xs, rfl⟩ : ∃ xs, v0 = .arr xs := ha.allOfArr _ (List.mem_of_find?_eq_some hf) hk
      obtain rfl : k0 = kw "allOf" := beq_iff_eq.1 hk
      refine AccSem_jset_allOf ha _ _ fun n hn o' hg => allM_jset_replace _ _ _ _ acc _ b hf (fun b0 hb0 => ?_)
        (ha.sem n hn o' hg)
      rw [evalKw_allOf] at hb0 ⊢
      rw [allM_append, hb0, allM_one (fun j => evalSchema root ref n j x) _ _ (hpoEval n hn), OB_and_some]
  · -- no keyword of the predicate is set yet: its keywords are appended
    rename_i hclash
    have hfresh : ∀ e ∈ po, hasKey acc e.1 = false := fun e he =>
      Bool.eq_false_iff.2 fun hh => hclash (List.any_eq_true.2 ⟨e, he, hh⟩)
    rw [jupdate_absent po acc hfresh hnd]
    refine ⟨ha.pos, fun n hn o' hg => ?_, ?_, fun e he hk => ?_⟩
    · rw [objEval, allM_append, ← objEval, ha.sem n hn o' hg, hsem, OB_and_some]
    · rw [hasKey_append, ha.notNullable, hnn]; rfl
    · rcases List.mem_append.1 he with h | h
      · exact ha.allOfArr e h hk
      · exact absurd hk (List.any_eq_false.1 hna e h)

theorem AccSem_preds (pr : Printer) (root : J) (ref : Option (List Nat)) (N : Nat) (x : PyVal) :
    ∀ (ps : List Pred) (acc o : JObj) (b : Bool), AccSem root ref N acc b x →
      (∀ p ∈ ps, PredOK pr root ref p.k x) → predsSchema pr acc ps = .ok o →
      AccSem root ref N o (b && ps.all (fun p => holds p.k x)) x :=
  fun ps acc o b ha hp h =>
    predsSchema_induct pr (fun p => holds p.k x) (fun b acc => AccSem root ref N acc b x) ps b acc o
      (fun p hm b acc po ha hpo => AccSem_step pr root ref N acc b x p.k po ha (hp p hm) hpo) ha h

theorem jGet_jupdate_absent (b : JObj) : ∀ (a : JObj) (k : String), hasKey b (kw k) = false →
    jGet (jupdate a b) k = jGet a k := by
  induction b with
  | nil => intro a k _; rfl
  | cons e es ih =>
    intro a k h
    simp only [hasKey, List.any_cons, Bool.or_eq_false_iff, beq_eq_false_iff_ne] at h
    rw [jupdate, List.foldl_cons, ← jupdate, ih _ k (by rw [hasKey]; exact h.2), jGet_jset_ne _ _ _ _ h.1]

theorem jGet_jaddPred_absent (a b : JObj) (k : String) (hb : hasKey b (kw k) = false) (hk : "allOf" ≠ k) :
    jGet (jaddPred a b) k = jGet a k := by
  unfold jaddPred
  split
  · split <;> exact jGet_jset_ne _ _ _ _ (kw_ne hk)
  · exact jGet_jupdate_absent b a k hb

theorem predsSchema_jGet (pr : Printer) (k : String) (ps : List Pred) (acc o : JObj)
    (hp : ∀ p po, predSchema pr p = .ok po → hasKey po (kw k) = false) (h : predsSchema pr acc ps = .ok o)
    (hk : "allOf" ≠ k) : jGet o k = jGet acc k :=
  predsSchema_induct pr (fun _ => true) (fun _ a => jGet a k = jGet acc k) ps true acc o
    (fun p _ _ a po ha hpo => (jGet_jaddPred_absent a po k (hp p.k po hpo) hk).trans ha) rfl h

theorem predsSchema_frame (pr : Printer) (base : JObj) (ps : List Pred) (o : JObj) (h : predsSchema pr base ps = .ok o) :
    jGet o "type" = jGet base "type" ∧ jGet o "nullable" = jGet base "nullable" ∧
    jGet o "properties" = jGet base "properties" ∧ jGet o "prefixItems" = jGet base "prefixItems" :=
  ⟨predsSchema_jGet pr "type" ps base o (fun p po hpo => (predSchema_keys pr p po hpo).1) h
     (by simp only [ne_eq, String.reduceEq, not_false_eq_true]),
   predsSchema_jGet pr "nullable" ps base o (fun p po hpo => (predSchema_keys pr p po hpo).2.1) h
     (by simp only [ne_eq, String.reduceEq, not_false_eq_true]),
   predsSchema_jGet pr "properties" ps base o (fun p po hpo => (predSchema_keys pr p po hpo).2.2.2.2.1) h
     (by simp only [ne_eq, String.reduceEq, not_false_eq_true]),
   predsSchema_jGet pr "prefixItems" ps base o (fun p po hpo => (predSchema_keys pr p po hpo).2.2.2.2.2) h
     (by simp only [ne_eq, String.reduceEq, not_false_eq_true])⟩

/-- **a base object `{"type": t, …}` with predicates (schema side)**: the object `predsSchema` builds from it accepts
    `x` iff `x` is of type `t`, the base's other keywords accept it and every predicate holds — whatever the number
    of predicates and however their keywords clash.  Scalars, lists and maps are instances. -/
theorem C11_typed_schema (pr : Printer) (root : J) (ref : Option (List Nat)) (base : JObj) (t : List Nat)
    (ps : List Pred) (o : JObj) (hps : predsSchema pr base ps = .ok o) (x : PyVal) (c b : Bool) (N : Nat) (hN : 1 ≤ N)
    (hc : typeOk t x = some c)
    (hbase : c = true → ∀ n, N ≤ n → ∀ o', Good o' → objEval root ref n o' base x = some b)
    (hp : c = true → ∀ p ∈ ps, PredOK pr root ref p.k x)
    (hty : jGet base "type" = some (.str t) := by simp only [jGet_cons, jGet_nil, String.reduceEq, ↓reduceIte])
    (hnull : jGet base "nullable" = none := by simp only [jGet_cons, jGet_nil, String.reduceEq, ↓reduceIte])
    (hall : jGet base "allOf" = none := by simp only [jGet_cons, jGet_nil, String.reduceEq, ↓reduceIte])
    (hprop : jGet base "properties" = none := by simp only [jGet_cons, jGet_nil, String.reduceEq, ↓reduceIte])
    (hpre : jGet base "prefixItems" = none := by simp only [jGet_cons, jGet_nil, String.reduceEq, ↓reduceIte]) :
    DecidesAt root ref (.obj o) (N + 1) x (c && (b && ps.all (fun p => holds p.k x))) := by
  intro n hn
  obtain ⟨m, rfl⟩ : ∃ m, n = m + 1 := ⟨n - 1, by omega⟩
  obtain ⟨f1, f2, f3, f4⟩ := predsSchema_frame pr base ps o hps
  refine evalSchema_typed root ref m o t x c _ (f2.trans hnull) (f1.trans hty) hc fun hct => ?_
  exact (AccSem_preds pr root ref N x ps base o b (AccSem_base hN hnull hall (hbase hct)) (hp hct) hps).sem m
    (by omega) o ⟨f3.trans hprop, f4.trans hpre⟩

theorem baseSchema_frag (tg : Ty) (t : String) (h : typeName tg = some t) :
    baseSchema tg = .ok [(kw "type", .str (kw t))] := by
  cases tg <;> cases h <;> rfl

/-- **C11, scalar validators (schema side)**: for a string / integer / float / boolean validator (coercer and
    preprocessors play no part in the schema) whose predicates' keywords are right on `x` (`PredOK`, proved per
    predicate below), the generated schema accepts `x` iff `x` is of exactly the validator's type and every
    predicate holds. -/
theorem C11_scalar_schema (pr : Printer) (root : J) (ref : Option (List Nat)) (ctx : RefCtx) (nrs : List Nat)
    (vid : Nat) (tg : Ty) (t : String) (ht : typeName tg = some t) (c : Option CoerceK) (pre : List Proc)
    (ps : List Pred) (j : J) (hj : toSchema pr ctx [] nrs (.scalar vid tg c pre ps []) = .ok j) (x : PyVal)
    (hp : x.ty = tg → ∀ p ∈ ps, PredOK pr root ref p.k x) :
    ∀ n, 2 ≤ n → evalSchema root ref n j x = some (decide (x.ty = tg) && ps.all (fun p => holds p.k x)) := by
  simp only [toSchema, List.contains_nil, Bool.false_eq_true, if_false, baseSchema_frag tg t ht, bind_eq_ok,
    Except.ok.injEq, List.append_nil] at hj
  obtain ⟨_, rfl, o, hps, rfl⟩ := hj
  have := C11_typed_schema pr root ref _ (kw t) ps o hps x (decide (x.ty = tg)) true 1 (Nat.le_refl 1)
    (typeOk_spec tg t ht x) (fun hc n _ o' _ => allM_one _ _ _ (by rw [evalKw_type, typeOk_spec tg t ht x, hc]))
    (fun hc => hp (of_decide_eq_true hc))
  rwa [Bool.true_and] at this

theorem runPreds_all (ps : List Pred) (x : PyVal) :
    ((runPreds ps x).1 = [] ∧ (runPreds ps x).2.2 = none) ↔ ps.all (fun p => holds p.k x) = true := by
  induction ps with
  | nil => simp [runPreds]
  | cons p ps ih =>
    simp only [runPreds, List.all_cons, Bool.and_eq_true]
    cases hc : p.k.call x with
    | error e => simp [holds, hc]
    | ok b =>
      cases b with
      | true => simpa [holds, hc] using ih
      | false => simp [holds, hc]

/-- **C11, scalar validators (validator side)**: without coercer, preprocessors and async predicates
    the validator accepts iff the value is of exactly its type and every predicate holds -/
theorem C11_scalar_validator (o : Oracle) (vid : Nat) (tg : Ty) (ps : List Pred) (x : PyVal) :
    (∃ w t, scalarStep o .sync vid tg none [] ps [] x = (.valid w, t)) ↔
      (decide (x.ty = tg) && ps.all (fun p => holds p.k x)) = true := by
  -- in sync mode `contPreds` is `runPreds`
  have hc : ((contPreds .sync ps [] x).1 = [] ∧ (contPreds .sync ps [] x).2.2 = none) ↔
      ps.all (fun p => holds p.k x) = true := by
    rw [← runPreds_all, contPreds]
    cases (runPreds ps x).2.2 <;> simp
  rw [Bool.and_eq_true, decide_eq_true_eq, ← hc]
  constructor
  · rintro ⟨w, t, h⟩
    obtain ⟨_, y, t0, t1, hg, hp, he, hn, _⟩ := (C02_accept_iff ..).1 h
    rw [gate] at hg
    split at hg <;> cases hg
    cases hp
    exact ⟨‹_›, he, hn⟩
  · rintro ⟨hty, h1, h2⟩
    exact ⟨x, _, (C02_accept_iff ..).2 ⟨by simp, x, [], [], by rw [gate, if_pos hty], rfl, h1, h2, rfl⟩⟩

/-- **C11 for scalar validators**: the generated schema accepts `x` iff the validator does -/
theorem C11_scalar (pr : Printer) (root : J) (ref : Option (List Nat)) (ctx : RefCtx) (nrs : List Nat) (o : Oracle)
    (vid : Nat) (tg : Ty) (t : String) (ht : typeName tg = some t) (ps : List Pred) (j : J)
    (hj : toSchema pr ctx [] nrs (.scalar vid tg none [] ps []) = .ok j) (x : PyVal)
    (hp : x.ty = tg → ∀ p ∈ ps, PredOK pr root ref p.k x) (n : Nat) (hn : 2 ≤ n) :
    evalSchema root ref n j x = some true ↔ ∃ w t', scalarStep o .sync vid tg none [] ps [] x = (.valid w, t') := by
  rw [C11_scalar_schema pr root ref ctx nrs vid tg t ht none [] ps j hj x hp n hn, C11_scalar_validator]
  simp

section
variable (pr : Printer) (root : J) (ref : Option (List Nat))

theorem PredOK_single (p : PredK) (x : PyVal) (k : List Nat)
    (v : J) (b : Bool) (hs : predSchema pr p = .ok [(k, v)])
    (hk : ∀ ev o', evalKw ev root ref o' k v x = some b) (hc : p.call x = .ok b) : PredOK pr root ref p x :=
  PredOK_of_sem pr root ref p x fun po hpo ev o' => by
    cases hs.symm.trans hpo
    rw [holds_of_call p x b hc]
    exact objEval_one ev root ref o' k v x b (hk ev o')

theorem decide_le_and_le (a b : Int) : (decide (a ≤ b) && decide (b ≤ a)) = decide (a = b) := by
  rw [Bool.eq_iff_iff]
  simp only [Bool.and_eq_true, decide_eq_true_eq]
  omega

theorem PredOK_minLength (n : Int) (s : List Nat) :
    PredOK pr root ref (.minLength n) (.str s) :=
  PredOK_single pr root ref _ _ _ _ _ rfl (fun ev o' => evalKw_minLength ev root ref o' n s) rfl

theorem PredOK_maxLength (n : Int) (s : List Nat) :
    PredOK pr root ref (.maxLength n) (.str s) :=
  PredOK_single pr root ref _ _ _ _ _ rfl (fun ev o' => evalKw_maxLength ev root ref o' n s) rfl

theorem PredOK_exactLength (n : Int) (s : List Nat) :
    PredOK pr root ref (.exactLength n) (.str s) :=
  PredOK_of_sem pr root ref _ _ fun po hpo ev o' => by
    cases hpo
    rw [holds_of_call (.exactLength n) (.str s) (decide ((s.length : Int) = n)) rfl]
    simp only [allM, evalKw_minLength, evalKw_maxLength, OB_and_some, Bool.and_true, ge_iff_le, decide_le_and_le, eq_comm]

theorem isNum_cases {x : PyVal} (h : isNum x = true) : (∃ i, x = .int i) ∨ ∃ f, x = .float f := by
  cases x <;> cases h
  · exact .inl ⟨_, rfl⟩
  · exact .inr ⟨_, rfl⟩

theorem xnum_num (a : PyVal) (ha : isNum a = true) : ∃ q, xnum a = some q := by
  rcases isNum_cases ha with ⟨i, rfl⟩ | ⟨f, rfl⟩
  · exact ⟨_, rfl⟩
  · cases f <;> exact ⟨_, rfl⟩

theorem pyLt_num (a b : PyVal) (ha : isNum a = true) (hb : isNum b = true) : ∃ r, pyLt a b = .ok r := by
  obtain ⟨qa, hqa⟩ := xnum_num a ha
  obtain ⟨qb, hqb⟩ := xnum_num b hb
  rcases isNum_cases ha with ⟨i, rfl⟩ | ⟨f, rfl⟩ <;> rcases isNum_cases hb with ⟨i', rfl⟩ | ⟨f', rfl⟩ <;>
    simp [pyLt, PyVal.unsub, hqa, hqb, isDecNaN]

theorem pyLe_num (a b : PyVal) (ha : isNum a = true) (hb : isNum b = true) : ∃ r, pyLe a b = .ok r := by
  obtain ⟨r, hr⟩ := pyLt_num a b ha hb
  simp only [pyLe, hr]
  cases r <;> simp

theorem toVal_rawJ_num (m : PyVal) (hm : isNum m = true) : (rawJ m).toVal = some m := by
  rcases isNum_cases hm with ⟨i, rfl⟩ | ⟨f, rfl⟩ <;> rfl

theorem boundSchema_num (pr : Printer) (m : PyVal) (e : Bool) (a b c d : String) (hm : isNum m = true) :
    boundSchema pr m e a b c d = .ok [(kw (if e then a else b), rawJ m)] := by
  rcases isNum_cases hm with ⟨i, rfl⟩ | ⟨f, rfl⟩ <;> rfl

theorem boundHolds_num (m x : PyVal) (hm : isNum m = true) (hx : isNum x = true)
    (cmp : PyVal → PyVal → Except Exn Bool) (r : Bool) (hr : cmp m x = .ok r) :
    boundHolds (rawJ m) x cmp = some r := by
  simp [boundHolds, toVal_rawJ_num m hm, hm, hx, hr, ofExcept]

theorem PredOK_min (m x : PyVal) (excl : Bool)
    (hm : isNum m = true) (hx : isNum x = true) : PredOK pr root ref (.min m excl) x := by
  cases excl
  · obtain ⟨r, hr⟩ := pyLe_num m x hm hx
    exact PredOK_single pr root ref _ x _ _ r (boundSchema_num pr m false _ _ _ _ hm)
      (fun ev o' => (evalKw_minimum ev root ref o' _ x).trans (boundHolds_num m x hm hx _ r hr)) hr
  · obtain ⟨r, hr⟩ := pyLt_num m x hm hx
    exact PredOK_single pr root ref _ x _ _ r (boundSchema_num pr m true _ _ _ _ hm)
      (fun ev o' => (evalKw_exclusiveMinimum ev root ref o' _ x).trans (boundHolds_num m x hm hx _ r hr)) hr

theorem PredOK_max (m x : PyVal) (excl : Bool)
    (hm : isNum m = true) (hx : isNum x = true) : PredOK pr root ref (.max m excl) x := by
  cases excl
  · obtain ⟨r, hr⟩ := pyLe_num x m hx hm
    exact PredOK_single pr root ref _ x _ _ r (boundSchema_num pr m false _ _ _ _ hm)
      (fun ev o' => (evalKw_maximum ev root ref o' _ x).trans (boundHolds_num m x hm hx _ r hr)) hr
  · obtain ⟨r, hr⟩ := pyLt_num x m hx hm
    exact PredOK_single pr root ref _ x _ _ r (boundSchema_num pr m true _ _ _ _ hm)
      (fun ev o' => (evalKw_exclusiveMaximum ev root ref o' _ x).trans (boundHolds_num m x hm hx _ r hr)) hr

/-- constant and datum are of the same JSON kind: both strings, both numbers (int / float), both booleans -/
def SameKind : PyVal → PyVal → Bool
  | .str _, .str _ => true
  | .bool _, .bool _ => true
  | .int _, x => isNum x
  | .float _, x => isNum x
  | _, _ => false

theorem SameKind_cases {v x : PyVal} (h : SameKind v x = true) :
    (∃ a b, v = .str a ∧ x = .str b) ∨ (∃ a b, v = .bool a ∧ x = .bool b) ∨ (isNum v = true ∧ isNum x = true) := by
  unfold SameKind at h
  split at h
  · exact .inl ⟨_, _, rfl, rfl⟩
  · exact .inr (.inl ⟨_, _, rfl, rfl⟩)
  · exact .inr (.inr ⟨rfl, h⟩)
  · exact .inr (.inr ⟨rfl, h⟩)
  · cases h

theorem Frac_eq_comm (a b : Frac) : a.eq b = b.eq a := by
  simp only [Frac.eq]
  exact Bool.beq_comm

theorem XNum_eq_comm (a b : XNum) : a.eq b = b.eq a := by
  cases a <;> cases b <;> simp [XNum.eq, Frac_eq_comm, Bool.beq_comm]

theorem numEq_comm (a b : PyVal) : numEq a b = numEq b a := by
  simp only [numEq]
  cases xnum a <;> cases xnum b <;> simp [XNum_eq_comm]

theorem jsonEq_pyEq (v x : PyVal) (h : SameKind v x = true) : jsonEq v x = pyEq x v ∧ jsonEq v x = pyEq v x := by
  rcases SameKind_cases h with ⟨a, b, rfl, rfl⟩ | ⟨a, b, rfl, rfl⟩ | ⟨hv, hx⟩
  · simp [jsonEq, pyEq, PyVal.unsub, Bool.beq_comm]
  · have hb : (a == b) = numEq (.bool a) (.bool b) := by cases a <;> cases b <;> decide
    simp [jsonEq, pyEq, PyVal.unsub, hb, numEq_comm]
  · rcases isNum_cases hv with ⟨i, rfl⟩ | ⟨f, rfl⟩ <;> rcases isNum_cases hx with ⟨i', rfl⟩ | ⟨f', rfl⟩ <;>
      simp [jsonEq, pyEq, PyVal.unsub, isNum, numEq_comm]

theorem enumValue_sameKind (pr : Printer) (v x : PyVal) (h : SameKind v x = true) :
    enumValue pr v = .ok (rawJ v) ∧ (rawJ v).toVal = some v := by
  rcases SameKind_cases h with ⟨a, b, rfl, rfl⟩ | ⟨a, b, rfl, rfl⟩ | ⟨hv, _⟩
  · exact ⟨rfl, rfl⟩
  · exact ⟨rfl, rfl⟩
  · rcases isNum_cases hv with ⟨i, rfl⟩ | ⟨f, rfl⟩ <;> exact ⟨rfl, rfl⟩

theorem isSNaN_sameKind (v x : PyVal) (h : SameKind v x = true) : isSNaN x.unsub = false ∧ isSNaN v.unsub = false := by
  rcases SameKind_cases h with ⟨a, b, rfl, rfl⟩ | ⟨a, b, rfl, rfl⟩ | ⟨hv, hx⟩
  · exact ⟨rfl, rfl⟩
  · exact ⟨rfl, rfl⟩
  · rcases isNum_cases hv with ⟨i, rfl⟩ | ⟨f, rfl⟩ <;> rcases isNum_cases hx with ⟨i', rfl⟩ | ⟨f', rfl⟩ <;>
      exact ⟨rfl, rfl⟩

theorem enumHolds_map (vs : List PyVal) (x : PyVal) (h : ∀ v ∈ vs, SameKind v x = true) :
    enumHolds (vs.map rawJ) x = some (vs.any (fun v => jsonEq v x)) := by
  have hv : ∀ v ∈ vs, (rawJ v).toVal = some v := fun v hv => (enumValue_sameKind default v x (h v hv)).2
  rw [enumHolds, if_pos, List.any_map]
  · congr 1
    induction vs with
    | nil => rfl
    | cons v vs ih =>
      rw [List.any_cons, List.any_cons, Function.comp, hv v List.mem_cons_self,
        ih (fun w hw => h w (List.mem_cons_of_mem v hw)) fun w hw => hv w (List.mem_cons_of_mem v hw)]
  · rw [List.all_map, List.all_eq_true]
    intro v hm
    rw [Function.comp, hv v hm]
    rfl

theorem PredOK_equalTo (v x : PyVal) (h : SameKind v x = true) :
    PredOK pr root ref (.equalTo v) x := by
  refine PredOK_single pr root ref _ x (kw "enum") (.arr [rawJ v]) (jsonEq v x) ?_ (fun ev o' => ?_) ?_
  · rw [predSchema, (enumValue_sameKind pr v x h).1]
  · rw [evalKw_enum]
    exact (enumHolds_map [v] x fun w hw => List.mem_singleton.1 hw ▸ h).trans
      (by rw [List.any_cons, List.any_nil, Bool.or_false])
  · rw [(jsonEq_pyEq v x h).1, PredK.call, pyEqX, (isSNaN_sameKind v x h).1, (isSNaN_sameKind v x h).2]
    rfl

theorem enumValues_sameKind (pr : Printer) (x : PyVal) : ∀ (vs : List PyVal), (∀ v ∈ vs, SameKind v x = true) →
    enumValues pr vs = .ok (vs.map rawJ)
  | [], _ => rfl
  | v :: vs, h => by
    rw [enumValues, (enumValue_sameKind pr v x (h v List.mem_cons_self)).1,
      enumValues_sameKind pr x vs fun w hw => h w (List.mem_cons_of_mem v hw)]
    rfl

theorem PredOK_choices (vs : List PyVal) (x : PyVal)
    (h : ∀ v ∈ vs, SameKind v x = true) (hx : hashable x = true) : PredOK pr root ref (.choices vs) x := by
  cases hs : sortVals vs with
  | none => exact fun po hpo => by rw [predSchema, hs] at hpo; cases hpo
  | some s =>
    have hsk : ∀ v ∈ s, SameKind v x = true := fun v hv => h v ((sortVals_mem vs s hs v).1 hv)
    refine PredOK_single pr root ref _ x (kw "enum") (.arr (s.map rawJ)) (memL x vs) ?_ (fun ev o' => ?_) ?_
    · rw [predSchema, hs]
      simp only [enumValues_sameKind pr x s hsk]
    · -- the sorted constants are the given ones, and on them JSON equality is Python's
      rw [evalKw_enum, enumHolds_map s x hsk, memL, Option.some.injEq, Bool.eq_iff_iff, List.any_eq_true, List.any_eq_true]
      exact ⟨fun ⟨v, hv, hf⟩ => ⟨v, (sortVals_mem vs s hs v).1 hv, (jsonEq_pyEq v x (hsk v hv)).2 ▸ hf⟩,
        fun ⟨v, hv, hf⟩ => ⟨v, (sortVals_mem vs s hs v).2 hv, (jsonEq_pyEq v x (h v hv)).2 ▸ hf⟩⟩
    · rw [PredK.call, hx]
      rfl

theorem PredOK_startsWith (q s : List Nat) :
    PredOK pr root ref (.startsWith (.str q)) (.str s) :=
  PredOK_single pr root ref _ _ _ _ _ rfl
    (fun ev o' => (evalKw_pattern ev root ref o' _ s).trans (patHolds_prefix q s)) rfl

theorem PredOK_endsWith (q s : List Nat) :
    PredOK pr root ref (.endsWith (.str q)) (.str s) :=
  PredOK_single pr root ref _ _ _ _ _ rfl
    (fun ev o' => (evalKw_pattern ev root ref o' _ s).trans (patHolds_suffix q s)) rfl

/-- `RegexPredicate(p)`, **partial** (finding D15): the schema *searches* for the pattern, the predicate
    *matches at the start*; they agree on `s` exactly when the hypothesis holds (e.g. for patterns that
    begin with `^` and do not end in `$`) -/
theorem PredOK_regex_partial (p : Pat) (s : List Nat)
    (hne : (p.source == notBlankText) = false) (hagree : p.search s = p.matchStart s) :
    PredOK pr root ref (.regex p) (.str s) :=
  PredOK_single pr root ref _ _ _ _ _ rfl
    (fun ev o' => (evalKw_pattern ev root ref o' _ s).trans ((patHolds_source p s).trans (congrArg some hagree))) rfl

/-- `NotBlank`, **partial** (finding D13): the pattern `^(?!\s*$).+` versus `s.strip() != ""` -/
theorem PredOK_notBlank_partial (s : List Nat)
    (hagree : notBlankPattern s = !(stripWith isSpaceStr s).isEmpty) :
    PredOK pr root ref .notBlank (.str s) :=
  PredOK_single pr root ref _ _ _ _ _ rfl
    (fun ev o' => by rw [evalKw_pattern, patHolds, ← notBlankText, beq_self_eq_true, if_pos rfl, hagree]) rfl

theorem PredOK_minItems (n : Int) (oid : Nat) (xs : List PyVal) :
    PredOK pr root ref (.minItems n) (.list oid xs) :=
  PredOK_single pr root ref _ _ _ _ _ rfl (fun ev o' => evalKw_minItems ev root ref o' n oid xs) rfl

theorem PredOK_maxItems (n : Int) (oid : Nat) (xs : List PyVal) :
    PredOK pr root ref (.maxItems n) (.list oid xs) :=
  PredOK_single pr root ref _ _ _ _ _ rfl (fun ev o' => evalKw_maxItems ev root ref o' n oid xs) rfl

/-- `UniqueItems`, relative to the agreement of JSON equality with the predicate's typed equality on
    the elements at hand (true for elements of one scalar kind — strings, ints, floats, booleans —,
    which is what C11's fragment has under a uniqueness predicate) -/
theorem PredOK_uniqueItems_partial (oid : Nat) (xs : List PyVal)
    (hagree : jsonUnique xs = uniqueLoop xs [] []) (hs : snanInsideL xs = false) :
    PredOK pr root ref .uniqueItems (.list oid xs) :=
  PredOK_single pr root ref _ _ _ _ _ rfl (fun ev o' => (evalKw_uniqueItems ev root ref o' oid xs).trans (congrArg some hagree))
    (by simp [PredK.call, pyIter, hs])

end

/-- D15 in the model: `a` on `"ba"` -/
example : (⟨false, [.lit 97], false⟩ : Pat).search [98, 97] = true ∧ (⟨false, [.lit 97], false⟩ : Pat).matchStart [98, 97] = false := by
  -- the search succeeds at offset 1
  refine ⟨List.any_eq_true.2 ⟨1, by decide, ?_⟩, ?_⟩
  · simp [matchEls, atEnd]
  · simp [Pat.matchStart, matchEls]

theorem regex_agree_anchored (els : List PatEl) (s : List Nat) :
    (⟨true, els, false⟩ : Pat).search s = (⟨true, els, false⟩ : Pat).matchStart s := by
  simp [Pat.search, Pat.matchStart]

/-- D13 in the model: `"\na"` is not blank, the pattern rejects it -/
example : notBlankPattern [10, 97] = false ∧ (!(stripWith isSpaceStr [10, 97]).isEmpty) = true := by decide

end Koda
