/-
  C20 — translator tie: `CacheValidatorBase.__call__` / `validate_async` as written in koda_validate/base.py
  (`Generated/CacheSrc.lean`, regenerated on every run) are the model's `Cache.step`, for every store, key
  equivalence, wrapped validator and input.
-/
import KodaModel.PyCache
import KodaModel.Generated.CacheSrc
import KodaModel.Properties.C20

namespace Koda

/-- **`CacheValidatorBase.__call__`, as written in the source, is `Cache.step … .sync`** -/
theorem src_cache_sync (keq : PyVal → PyVal → Bool) (bare : Mode → PyVal → Out) (s : Store) (x : PyVal) :
    runCache keq bare s Src.cacheSync x = some (Cache.step keq bare s .sync x) := by
  dsimp only [runCache, Src.cacheSync, Cache.step, KStmt.execL, KStmt.exec, KExp.eval, callBare]
  cases Store.get keq s x with
  | some r => rfl
  | none => cases bare .sync x <;> rfl

/-- **`CacheValidatorBase.validate_async`, as written in the source, is `Cache.step … .async`** -/
theorem src_cache_async (keq : PyVal → PyVal → Bool) (bare : Mode → PyVal → Out) (s : Store) (x : PyVal) :
    runCache keq bare s Src.cacheAsync x = some (Cache.step keq bare s .async x) := by
  dsimp only [runCache, Src.cacheAsync, Cache.step, KStmt.execL, KStmt.exec, KExp.eval, callBare]
  cases Store.get keq s x with
  | some r => rfl
  | none => cases bare .async x <;> rfl

/-- a history of calls through the translated methods, the store threaded through -/
def runCacheHist (keq : PyVal → PyVal → Bool) (bare : Mode → PyVal → Out) :
    Store → List (Mode × PyVal) → Option (Store × List (Out × List CEv))
  | s, [] => some (s, [])
  | s, (m, x) :: rest =>
    match runCache keq bare s (match m with | .sync => Src.cacheSync | .async => Src.cacheAsync) x with
    | none => none
    | some r =>
      match runCacheHist keq bare r.1 rest with
      | none => none
      | some rr => some (rr.1, (r.2.1, r.2.2) :: rr.2)

theorem src_cache_hist (keq : PyVal → PyVal → Bool) (bare : Mode → PyVal → Out) (s : Store) (h : List (Mode × PyVal)) :
    runCacheHist keq bare s h = some (Cache.runHist keq bare s h) := by
  induction h generalizing s with
  | nil => rfl
  | cons c rest ih =>
    obtain ⟨m, x⟩ := c
    cases m with
    | sync => simp only [runCacheHist, src_cache_sync, ih, Cache.runHist]
    | async => simp only [runCacheHist, src_cache_async, ih, Cache.runHist]

/-- so the source's own methods are transparent over any history (C20_transparent transported) -/
theorem src_cache_transparent {keq bare} (hr : Respects keq bare) (hrefl : ∀ x, keq x x = true)
    (h : List (Mode × PyVal)) :
    ∃ r, runCacheHist keq bare [] h = some r ∧ r.2.map Prod.fst = h.map (fun c => bare c.1 c.2) := by
  refine ⟨_, src_cache_hist keq bare [] h, ?_⟩
  exact C20_transparent_empty hr hrefl h

end Koda
