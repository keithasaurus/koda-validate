/-
  C18 — Composition laws: verdicts are context-free and refinement only narrows.
  Corollaries of C02–C05 on the model (the oracle checks the same relations on the implementation
  without consulting the model).
-/
import KodaModel.Properties.C02
import KodaModel.Properties.C03
import KodaModel.Properties.C04
import KodaModel.Properties.C05

namespace Koda

theorem seqStep_one_valid (k : SeqKind) (o : Oracle) (m : Mode) (vid : Nat) (ev : Ev1) {y x w : PyVal} {t : List Ev}
    (hty : y.ty = k.gateTy) (hit : pyIter y = some [x]) (h : ev x = some (.valid w, t))
    (hw : k = .set → hashable w = true) :
    seqStep k o m vid [] [] none ev y = some (.valid (k.build [w]), t) := by
  have hc : ¬ (k = .set ∧ hashable w = false) := fun ⟨hk, hf⟩ => by rw [hw hk] at hf; cases hf
  rw [seqStep, seqPre_plain k o m vid hty hit]
  simp [loopItems, h, hc, finishSeq]

theorem seqStep_one_invalid (k : SeqKind) (o : Oracle) (m : Mode) (vid : Nat) (ev : Ev1) {y x : PyVal} {e : Inv}
    {t : List Ev} (hty : y.ty = k.gateTy) (hit : pyIter y = some [x]) (h : ev x = some (.invalid e, t)) :
    seqStep k o m vid [] [] none ev y = some (.invalid (seqElemErr k vid y [(0, e)]), t) := by
  rw [seqStep, seqPre_plain k o m vid hty hit]
  cases k <;> simp [loopItems, h, finishSeq, seqElemErr]

/-- `[x]` is accepted by the list validator iff `x` is accepted by the child, with the child's
    payload inside … -/
theorem C18_singleton_list_valid (o : Oracle) (m : Mode) (vid oid : Nat) (ev : Ev1) (x w : PyVal) (t : List Ev)
    (h : ev x = some (.valid w, t)) :
    seqStep .list o m vid [] [] none ev (.list oid [x]) = some (.valid (.list 0 [w]), t) :=
  seqStep_one_valid .list o m vid ev rfl rfl h nofun

/-- … and rejected with the child's own error at position 0 otherwise -/
theorem C18_singleton_list_invalid (o : Oracle) (m : Mode) (vid oid : Nat) (ev : Ev1) (x : PyVal) (e : Inv)
    (t : List Ev) (h : ev x = some (.invalid e, t)) :
    seqStep .list o m vid [] [] none ev (.list oid [x]) =
      some (.invalid (.mk (.index [0]) (.list oid [x]) vid [e]), t) :=
  seqStep_one_invalid .list o m vid ev rfl rfl h

theorem C18_singleton_utuple_valid (o : Oracle) (m : Mode) (vid oid : Nat) (ev : Ev1) (x w : PyVal) (t : List Ev)
    (h : ev x = some (.valid w, t)) :
    seqStep .utuple o m vid [] [] none ev (.tuple oid [x]) = some (.valid (.tuple 0 [w]), t) :=
  seqStep_one_valid .utuple o m vid ev rfl rfl h nofun

theorem C18_singleton_utuple_invalid (o : Oracle) (m : Mode) (vid oid : Nat) (ev : Ev1) (x : PyVal) (e : Inv)
    (t : List Ev) (h : ev x = some (.invalid e, t)) :
    seqStep .utuple o m vid [] [] none ev (.tuple oid [x]) =
      some (.invalid (.mk (.index [0]) (.tuple oid [x]) vid [e]), t) :=
  seqStep_one_invalid .utuple o m vid ev rfl rfl h

theorem C18_singleton_set_valid (o : Oracle) (m : Mode) (vid oid : Nat) (ev : Ev1) (x w : PyVal) (t : List Ev)
    (h : ev x = some (.valid w, t)) (hw : hashable w = true) :
    seqStep .set o m vid [] [] none ev (.set oid [x]) = some (.valid (.set 0 [w]), t) :=
  seqStep_one_valid .set o m vid ev rfl rfl h fun _ => hw

theorem C18_singleton_set_invalid (o : Oracle) (m : Mode) (vid oid : Nat) (ev : Ev1) (x : PyVal) (e : Inv)
    (t : List Ev) (h : ev x = some (.invalid e, t)) :
    seqStep .set o m vid [] [] none ev (.set oid [x]) =
      some (.invalid (.mk .set (.set oid [x]) vid [e]), t) :=
  seqStep_one_invalid .set o m vid ev rfl rfl h

theorem C18_singleton_ntuple_valid (o : Oracle) (vid oid lp : Nat) (ev : Ev1) (x w : PyVal) (t : List Ev)
    (h : ev x = some (.valid w, t)) :
    ntupleStep o vid none none lp [ev] (.tuple oid [x]) = some (.valid (.tuple 0 [w]), t) := by
  have hp : ntuplePre o vid none lp 1 _ = _ := ntuplePre_plain o vid lp oid [x]
  simp [ntupleStep, hp, loopFields, h, ntupleFinish, runObjCheck]

theorem C18_singleton_ntuple_invalid (o : Oracle) (vid oid lp : Nat) (ev : Ev1) (x : PyVal) (e : Inv) (t : List Ev)
    (h : ev x = some (.invalid e, t)) :
    ntupleStep o vid none none lp [ev] (.tuple oid [x]) =
      some (.invalid (.mk (.index [0]) (.tuple oid [x]) vid [e]), t) := by
  have hp : ntuplePre o vid none lp 1 _ = _ := ntuplePre_plain o vid lp oid [x]
  simp [ntupleStep, hp, loopFields, h, ntupleFinish]

/-- one-pair map with an accepting key validator: the value position behaves as the child -/
theorem C18_singleton_map_valid (o : Oracle) (m : Mode) (vid oid : Nat) (evk ev : Ev1) (k kw x w : PyVal)
    (tk t : List Ev) (hk : evk k = some (.valid kw, tk)) (hh : hashable kw = true)
    (h : ev x = some (.valid w, t)) :
    mapStep o m vid [] [] none evk ev (.dict oid [(k, x)]) = some (.valid (.dict 0 [(kw, w)]), tk ++ t) := by
  simp [mapStep, mapPre_plain, mapLoop, hk, h, hh, mapFinish, dictSet]

theorem C18_singleton_map_invalid (o : Oracle) (m : Mode) (vid oid : Nat) (evk ev : Ev1) (k kw x : PyVal) (e : Inv)
    (tk t : List Ev) (hk : evk k = some (.valid kw, tk)) (h : ev x = some (.invalid e, t)) :
    mapStep o m vid [] [] none evk ev (.dict oid [(k, x)]) =
      some (.invalid (.mk (.map [k] [(false, true)]) (.dict oid [(k, x)]) vid [e]), tk ++ t) := by
  simp [mapStep, mapPre_plain, mapLoop, hk, h, mapFinish]

/-- `Just(x)` / one-variant union / lazy / user wrapper: C05 (`C05_maybe_just_valid`,
    `C05_union_first` with `pre = post = []`, `C05_lazy`, `C05_user`) -/
theorem C18_union_one (vid : Nat) (ev : Ev1) (x w : PyVal) (t : List Ev) (h : ev x = some (.valid w, t)) :
    unionStep vid [ev] x = some (.valid w, t) := by
  have := C05_union_first (x := x) .nil h [] vid
  simpa using this

/-- a union accepts iff one of its variants does (the first one that does decides the payload) -/
theorem C18_union_iff (vid : Nat) (evs : List Ev1) (x w : PyVal) (t : List Ev) :
    unionStep vid evs x = some (.valid w, t) ↔
      ∃ pre ev post es t1 tw, evs = pre ++ ev :: post ∧ AllReject x pre es t1 ∧
        ev x = some (.valid w, tw) ∧ t = t1 ++ tw := by
  constructor
  · exact C05_union_valid_inv
  · rintro ⟨pre, ev, post, es, t1, tw, rfl, hr, hv, rfl⟩
    exact C05_union_first hr hv post vid

/-- **adding a predicate**: whatever the refined scalar validator accepts, the original accepts
    with the same payload -/
theorem C18_add_predicate (o : Oracle) (vid : Nat) (tg : Ty) (c : Option CoerceK) (pre : List Proc)
    (ps : List Pred) (p : Pred) (x w : PyVal) (t : List Ev)
    (h : scalarStep o .sync vid tg c pre (ps ++ [p]) [] x = (.valid w, t)) :
    ∃ t', scalarStep o .sync vid tg c pre ps [] x = (.valid w, t') := by
  obtain ⟨hs, y, t0, t1, hg, hp, he, hn, _⟩ := (C02_accept_iff ..).1 h
  obtain ⟨t', h'⟩ := contPreds_pass_prefix (qs := [p]) (Prod.ext he (Prod.ext rfl hn))
  exact ⟨_, (C02_accept_iff ..).2 ⟨hs, y, t0, t1, hg, hp, by rw [h'], by rw [h'], rfl⟩⟩

/-- **forbidding unknown keys**: whatever the stricter record validator accepts, the laxer one
    accepts with the same payload (same trace, even) -/
theorem C18_forbid_unknown (o : Oracle) (m : Mode) (vid : Nat) (cfg : RecCfg) (evs : List Ev1) (x : PyVal)
    (r : Out × List Ev) (hr : ∃ w, r.1 = .valid w)
    (h : recordStep o m vid { cfg with failUnknown := true } evs x = some r) :
    recordStep o m vid { cfg with failUnknown := false } evs x = some r := by
  cases hp : recPre o m vid { cfg with failUnknown := true } x with
  | inl r' =>
    -- decided at the container level: not an acceptance
    rw [C04_pre_first hp] at h
    cases h
    obtain ⟨w, hw⟩ := hr
    exact absurd hw ((recPre_eq_iff.1 hp).inl_not_valid w)
  | inr q =>
    obtain ⟨y, data, t0⟩ := q
    -- the laxer validator passes the container level with the same result: only the key scan differs
    obtain ⟨h1, h2, h3, _⟩ := (C04_pre_iff ..).1 hp
    have hp' : recPre o m vid { cfg with failUnknown := false } x = .inr (y, data, t0) :=
      (C04_pre_iff ..).2 ⟨h1, h2, h3, fun h => nomatch h.1⟩
    rw [recordStep_inr hp] at h
    rw [recordStep_inr hp']
    exact h

example : seqStep .list default .sync 1 [] [] none (fun x => some (.valid x, [])) (.list 5 [.int 3]) =
    some (.valid (.list 0 [.int 3]), []) := by rfl

end Koda
