/-
  C07 — typehint-derived validators are sound and complete for the annotated type.

  Proved here, for both resolvers (`derive .dflt`, `derive .signature`):
  * the scalar annotations, `Any`, `None` and arbitrary classes: the derived validator accepts `x` iff
    `hasType a x` — in the default resolver "if" for the four coercing types (a value of the type passes
    unchanged) and "only values of the type come out" under `OracleTyped` — and the payload is `x`
    itself whenever no coercion applies;
  * `List[T]` (step): given that the derived item validator is sound and complete for `T`, the derived
    list validator is sound and complete for `List[T]`.
  Whole annotations (nesting, bare and parametrised tuples, `Maybe`, unions) are in C07Tree2 (strict
  resolver) and C07Dflt (default resolver).  Dict, set, Literal, record and Annotated forms are decided
  by the correspondence stream and the model-free oracle only.
-/
import KodaModel.Typehint
import KodaModel.Properties.C02
import KodaModel.Properties.C03
import KodaModel.Properties.C05
import KodaModel.Properties.C17

namespace Koda

/-- the scalar annotations and the type their validator tests -/
def scalarTy : Ann → Option Ty
  | .str => some .str | .int => some .int | .float => some .float | .bool => some .bool
  | .bytes => some .bytes | .uuid => some .uuid | .date => some .date | .datetime => some .datetime
  | .decimal => some .decimal | .cls c => some (.cls c)
  | _ => none

/-- the four types whose default validator coerces -/
def coercing (t : Ty) : Bool := t == .decimal || t == .uuid || t == .date || t == .datetime

theorem coercing_iff (t : Ty) : coercing t = true ↔ t = .decimal ∨ t = .uuid ∨ t = .date ∨ t = .datetime := by
  simp [coercing, or_assoc]

theorem scalarTy_cases {P : Ann → Ty → Prop} (str : P .str .str) (int : P .int .int) (float : P .float .float)
    (bool : P .bool .bool) (bytes : P .bytes .bytes) (uuid : P .uuid .uuid) (date : P .date .date)
    (datetime : P .datetime .datetime) (decimal : P .decimal .decimal) (cls : ∀ c, P (.cls c) (.cls c))
    (a : Ann) (tg : Ty) (h : scalarTy a = some tg) : P a tg := by
  cases a <;> cases h
  case str => exact str
  case int => exact int
  case float => exact float
  case bool => exact bool
  case bytes => exact bytes
  case uuid => exact uuid
  case date => exact date
  case datetime => exact datetime
  case decimal => exact decimal
  case cls c => exact cls c

theorem derive_scalar (m : ResolveMode) (a : Ann) (tg : Ty) (h : scalarTy a = some tg) (s : Nat) :
    (derive m a s).1 = .scalar s tg (if coercing tg && m != .signature then some .dflt else none) [] [] [] := by
  refine scalarTy_cases (P := fun a tg => (derive m a s).1 =
    .scalar s tg (if coercing tg && m != .signature then some .dflt else none) [] [] [])
    ?_ ?_ ?_ ?_ ?_ ?_ ?_ ?_ ?_ (fun _ => ?_) a tg h
  all_goals cases m <;> rfl

theorem hasType_scalar (a : Ann) (tg : Ty) (h : scalarTy a = some tg) (x : PyVal) : hasType a x = (x.ty == tg) :=
  scalarTy_cases (P := fun a tg => hasType a x = (x.ty == tg)) rfl rfl rfl rfl rfl rfl rfl rfl rfl (fun _ => rfl) a tg h

theorem scalarStep_bare_valid (o : Oracle) (md : Mode) (vid : Nat) (tg : Ty) (c : Option CoerceK) (x w : PyVal)
    (t : List Ev) : scalarStep o md vid tg c [] [] [] x = (.valid w, t) ↔ gate o tg tg c x = .acc w t := by
  rw [C02_accept_iff]
  constructor
  · rintro ⟨_, y, t0, t1, hg, hp, _, _, rfl⟩
    cases hp
    simpa [contPreds_nil] using hg
  · intro hg
    exact ⟨by simp, w, t, [], hg, rfl, by rw [contPreds_nil], by rw [contPreds_nil], by simp [contPreds_nil]⟩

theorem strict_scalar_iff (o : Oracle) (md : Mode) (vid : Nat) (tg : Ty) (x w : PyVal) (t : List Ev) :
    scalarStep o md vid tg none [] [] [] x = (.valid w, t) ↔ x.ty = tg ∧ w = x ∧ t = [] := by
  rw [scalarStep_bare_valid]
  by_cases hty : x.ty = tg <;> simp [gate, hty, eq_comm]

/-- **C07, scalar annotations, strict resolver (and the non-coercing ones under the default resolver)**:
    sound, complete, payload is the value itself -/
theorem C07_scalar_strict (o : Oracle) (env : Nat → V) (md : Mode) (m : ResolveMode) (a : Ann) (tg : Ty)
    (h : scalarTy a = some tg) (hm : coercing tg = false ∨ m = .signature) (s n : Nat) (x w : PyVal) (t : List Ev) :
    run o env md (n + 1) (derive m a s).1 x = some (.valid w, t) ↔ hasType a x = true ∧ w = x ∧ t = [] := by
  rw [derive_scalar m a tg h s, hasType_scalar a tg h]
  have : (if coercing tg && m != .signature then some CoerceK.dflt else none) = none := by
    rcases hm with hm | hm <;> simp [hm]
  rw [this]
  simp only [run, Option.some.injEq, strict_scalar_iff, beq_iff_eq]

theorem derive_scalar_dflt (a : Ann) (tg : Ty) (h : scalarTy a = some tg) (hc : coercing tg = true) (s : Nat) :
    (derive .dflt a s).1 = .scalar s tg (some .dflt) [] [] [] := by
  rw [derive_scalar .dflt a tg h s, hc]
  rfl

/-- **default resolver, coercing types — completeness**: a value that already has the type is accepted
    unchanged -/
theorem C07_scalar_default_complete (o : Oracle) (env : Nat → V) (md : Mode) (a : Ann) (tg : Ty)
    (h : scalarTy a = some tg) (hc : coercing tg = true) (s n : Nat) (x : PyVal) (hx : hasType a x = true) :
    run o env md (n + 1) (derive .dflt a s).1 x = some (.valid x, []) := by
  rw [hasType_scalar a tg h, beq_iff_eq] at hx
  rw [derive_scalar_dflt a tg h hc s]
  simp only [run, Option.some.injEq]
  exact (scalarStep_bare_valid ..).2 (GateFix_default o tg x hx ((coercing_iff tg).1 hc))

/-- the stdlib parsers return values of their own type -/
structure OracleTyped (o : Oracle) : Prop where
  decimal : ∀ s d, o.decimal s = some d → d.ty = .decimal
  uuid : ∀ s d, o.uuid s = some d → d.ty = .uuid
  date : ∀ s d, o.date s = some d → d.ty = .date
  datetime : ∀ s d, o.datetime s = some d → d.ty = .datetime

theorem defaultCoerce_typed (o : Oracle) (ho : OracleTyped o) (tg : Ty) (hc : coercing tg = true) (x y : PyVal)
    (h : defaultCoerce o tg x = some y) : y.ty = tg := by
  -- per type: the value itself (it has the type), what the parser returns, or — decimal — a converted int
  rcases (coercing_iff tg).1 hc with rfl | rfl | rfl | rfl <;> simp only [defaultCoerce] at h <;> split at h
  · cases h; assumption
  · split at h
    · exact ho.decimal _ _ h
    · split at h
      · cases h; rfl
      · cases h
  · cases h; assumption
  · split at h
    · exact ho.uuid _ _ h
    · cases h
  · cases h; assumption
  · split at h
    · exact ho.date _ _ h
    · cases h
  · cases h; assumption
  · split at h
    · exact ho.datetime _ _ h
    · cases h

/-- **default resolver, coercing types — soundness**: whatever is accepted comes out as a value of the type -/
theorem C07_scalar_default_sound (o : Oracle) (ho : OracleTyped o) (env : Nat → V) (md : Mode) (a : Ann) (tg : Ty)
    (h : scalarTy a = some tg) (hc : coercing tg = true) (s n : Nat) (x w : PyVal) (t : List Ev)
    (hr : run o env md (n + 1) (derive .dflt a s).1 x = some (.valid w, t)) : hasType a w = true := by
  rw [derive_scalar_dflt a tg h hc s] at hr
  simp only [run, Option.some.injEq] at hr
  rw [hasType_scalar a tg h, beq_iff_eq]
  exact defaultCoerce_typed o ho tg hc x w (gate_dflt_acc ((scalarStep_bare_valid ..).1 hr))

theorem C07_any (o : Oracle) (env : Nat → V) (md : Mode) (m : ResolveMode) (s n : Nat) (x : PyVal) :
    run o env md (n + 1) (derive m .any s).1 x = some (.valid x, []) ∧ hasType .any x = true := by
  constructor <;> rfl

theorem isNone_iff (x : PyVal) : isNone x = true ↔ x = .none := by
  unfold isNone
  split <;> simp_all

theorem C07_none (o : Oracle) (env : Nat → V) (md : Mode) (m : ResolveMode) (s n : Nat) (x w : PyVal) (t : List Ev) :
    run o env md (n + 1) (derive m .none s).1 x = some (.valid w, t) ↔ hasType .none x = true ∧ w = .none ∧ t = [] := by
  have : (derive m .none s).1 = .noneV s none := rfl
  rw [this]
  simp only [run, Option.some.injEq, hasType, noneStep_valid_iff, isNone_iff]

theorem derive_list (m : ResolveMode) (a : Ann) (s : Nat) :
    (derive m (.list a) s).1 = .list (derive m a s).2 (derive m a s).1 [] [] none := rfl

theorem ItemsRun_of_all_valid (ev : Ev1) : ∀ (xs : List PyVal) (i : Nat),
    (∀ y ∈ xs, ∃ w t, ev y = some (.valid w, t)) → ∃ ws t, ItemsRun ev xs i ws [] t := by
  intro xs
  induction xs with
  | nil => intro i _; exact ⟨[], [], .nil i⟩
  | cons x xs ih =>
    intro i h
    obtain ⟨w, t, hw⟩ := h x (by simp)
    obtain ⟨ws, t', hws⟩ := ih (i + 1) (fun y hy => h y (by simp [hy]))
    exact ⟨w :: ws, t ++ t', .valid hw hws⟩

/-- **C07, `List[T]` (step)**: if the derived item validator accepts exactly the values of type `T`, the
    derived list validator accepts exactly the lists (exact type) of such values — at every fuel -/
theorem C07_list_step (o : Oracle) (env : Nat → V) (md : Mode) (m : ResolveMode) (a : Ann) (s n : Nat) (x : PyVal)
    (hitem : ∀ y, (∃ w t, run o env md n (derive m a s).1 y = some (.valid w, t)) ↔ hasType a y = true) :
    (∃ w t, run o env md (n + 1) (derive m (.list a) s).1 x = some (.valid w, t)) ↔ hasType (.list a) x = true := by
  rw [derive_list]
  simp only [run]
  by_cases hty : x.ty = .list
  · obtain ⟨oid, ys, rfl⟩ : ∃ oid ys, x = .list oid ys := by
      cases x <;> simp [PyVal.ty] at hty
      exact ⟨_, _, rfl⟩
    have hpre := seqPre_plain .list o md (derive m a s).2 hty (xs := ys) rfl
    simp only [hasType, List.all_eq_true]
    constructor
    · rintro ⟨w, t, h⟩ y hy
      obtain ⟨y', xs, t0, ws, t1, hp, hrun, _⟩ := (C03_seq_accept_iff .list o md _ [] [] none _ nofun _ w t).1 h
      cases hpre.symm.trans hp
      obtain ⟨j, hj⟩ := List.getElem?_of_mem hy
      obtain ⟨w', u, _, hev⟩ := (ItemsRun.all_valid hrun).2 j y hj
      exact (hitem y).1 ⟨w', u, hev⟩
    · intro h
      obtain ⟨ws, t1, hrun⟩ := ItemsRun_of_all_valid (run o env md n (derive m a s).1) ys 0
        (fun y hy => (hitem y).2 (h y hy))
      exact ⟨_, _, (C03_seq_accept_iff .list o md _ [] [] none _ nofun _ _ _).2 ⟨_, ys, [], ws, t1, hpre, hrun, rfl, rfl⟩⟩
  · -- not a list: rejected by the gate, and not of the type
    have hx : hasType (.list a) x = false := by
      unfold hasType
      split
      · exact absurd rfl hty
      · rfl
    rw [hx]
    refine ⟨?_, nofun⟩
    rintro ⟨w, t, h⟩
    obtain ⟨y, xs, t0, ws, t1, hp, _⟩ := (C03_seq_accept_iff .list o md _ [] [] none _ nofun x w t).1 h
    obtain ⟨_, _, _, hg, _⟩ := (C03_pre_iff ..).1 hp
    simp [gate, SeqKind.gateTy, hty] at hg

example : run default (fun _ => .always 0) .sync 3 (derive .dflt (.list .int) 100).1 (.list 7 [.int 1, .int 2]) =
    some (.valid (.list 0 [.int 1, .int 2]), []) := by rfl

example : hasType (.list .int) (.list 7 [.int 1, .bool true]) = false := by rfl

end Koda
