/-
  C19 — Validator equality is a behavioural congruence.

  `==` on validators compares the configuration (target type, children, predicates, processors,
  coercer, requiredness, unknown-key policy, …) and not the identity of the validator / built-in
  predicate *objects*.  In the model an object's identity is the number it carries (`vid`, `pid`);
  everything else in the syntax tree is configuration.  The theorem here: **identities are inert** —
  renaming them in the validator renames them in the result and changes nothing else
  (`C19_rename`), for every validator kind, input, mode, amount of fuel and environment of named
  validators.  Hence two validators that become the same tree once identities are renamed — what
  `==` decides — return, on every input, results that are the same once identities are renamed
  (`C19_congruence`): same verdict, same payload, same error tree with the same values, the same
  failing predicates and validators *up to that renaming*, and the same callbacks called in the same
  order.
-/
import KodaModel.Rename
import KodaModel.Lemmas.Loops

namespace Koda

def rnPR (r : Rn) (q : List Nat × List Ev × Option Exn) : List Nat × List Ev × Option Exn :=
  (q.1.map r.p, q.2.1.map (Ev.rn r), q.2.2)

def rnPre {α} (r : Rn) : (Out × List Ev) ⊕ (PyVal × α × List Ev) → (Out × List Ev) ⊕ (PyVal × α × List Ev)
  | .inl p => .inl (rnOT r p)
  | .inr (y, a, t) => .inr (y, a, t.map (Ev.rn r))

def LoopR.rn (r : Rn) (l : LoopR) : LoopR :=
  ⟨l.ws, l.es.map (fun p => (p.1, p.2.rn r)), l.t.map (Ev.rn r), l.r⟩

def MapR.rn (r : Rn) (a : MapR) : MapR :=
  { a with errs := a.errs.map (Inv.rn r), t := a.t.map (Ev.rn r) }

def RecR.rn (r : Rn) (a : RecR) : RecR :=
  { a with errs := a.errs.map (Inv.rn r), t := a.t.map (Ev.rn r) }

def rnEvs (r : Rn) (evs : List Ev1) : List Ev1 := evs.map (fun ev y => rnRes r (ev y))

theorem rnEvs_cons (r : Rn) (ev : Ev1) (evs : List Ev1) :
    rnEvs r (ev :: evs) = (fun y => rnRes r (ev y)) :: rnEvs r evs := rfl

/- What renaming does to an outcome, an error and the intermediate records: the `_rn` lemmas below
   evaluate both sides branch by branch of the definition, and these are the definitions they unfold. -/
attribute [local simp] rnEvs_cons rnOT Out.rn Inv.rn Inv.rnL LoopR.rn MapR.rn RecR.rn

theorem Pred.ev_rn (r : Rn) (p : Pred) : (p.rn r).ev = p.ev.map (Ev.rn r) := by
  simp only [Pred.ev, Pred.rn]
  split <;> rfl

theorem Proc.ev_rn (r : Rn) (p : Proc) : (p.rn r).ev = p.ev.map (Ev.rn r) := by
  simp only [Proc.ev, Proc.rn]
  split <;> rfl

theorem runPreds_rn (r : Rn) (x : PyVal) : ∀ ps, runPreds (ps.map (Pred.rn r)) x = rnPR r (runPreds ps x)
  | [] => rfl
  | p :: ps => by
    simp only [List.map_cons, runPreds]
    have hk : (p.rn r).k = p.k := rfl
    rw [hk]
    cases p.k.call x with
    | error e => simp [rnPR, Pred.ev_rn]
    | ok b =>
      simp only [runPreds_rn r x ps, rnPR, Pred.ev_rn]
      cases b <;> simp [Pred.rn]

theorem runAPreds_rn (r : Rn) (x : PyVal) : ∀ ps, runAPreds (ps.map (Pred.rn r)) x = rnPR r (runAPreds ps x)
  | [] => rfl
  | p :: ps => by
    simp only [List.map_cons, runAPreds]
    have hk : (p.rn r).k = p.k := rfl
    rw [hk]
    cases p.k.call x with
    | error e => simp [rnPR, Pred.rn, Ev.rn]
    | ok b =>
      simp only [runAPreds_rn r x ps, rnPR]
      cases b <;> simp [Pred.rn, Ev.rn]

theorem contPreds_rn (r : Rn) (m : Mode) (ps aps : List Pred) (x : PyVal) :
    contPreds m (ps.map (Pred.rn r)) (aps.map (Pred.rn r)) x = rnPR r (contPreds m ps aps x) := by
  simp only [contPreds, runPreds_rn, runAPreds_rn]
  cases h : (runPreds ps x).2.2 with
  | some e => simp [rnPR, h]
  | none =>
    by_cases hm : m = .async <;> simp [rnPR, h, hm]

theorem runProcs_rn (r : Rn) : ∀ pre x,
    runProcs (pre.map (Proc.rn r)) x = ((runProcs pre x).1, (runProcs pre x).2.map (Ev.rn r))
  | [], x => rfl
  | p :: ps, x => by
    simp only [List.map_cons, runProcs]
    have hk : (p.rn r).k = p.k := rfl
    rw [hk]
    cases p.k.call x with
    | error e => simp [Proc.ev_rn]
    | ok y => simp [runProcs_rn r ps y, Proc.ev_rn]

/-- what a coercer logs is a callback identity, which is configuration: renaming leaves it alone -/
theorem CoerceLog.rn {t : List Ev} (h : CoerceLog t) (r : Rn) : t.map (Ev.rn r) = t := by
  rcases h with rfl | ⟨cid, rfl⟩ <;> rfl

theorem gate_tr (r : Rn) (o : Oracle) (tg d : Ty) (c : Option CoerceK) (x : PyVal) :
    (gate o tg d c x).tr.map (Ev.rn r) = (gate o tg d c x).tr :=
  (gate_wf o tg d c x).log.rn r

/-- a gate never rejects with a predicate error, so renaming leaves its error kind alone -/
theorem Gate.Wf.rej_rn {k : ErrK} {t : List Ev} (h : (Gate.rej k t).Wf) (r : Rn) : k.rn r = k := by
  cases h <;> rfl

theorem gate_rej (r : Rn) (o : Oracle) (tg d : Ty) (c : Option CoerceK) (x : PyVal)
    (k : ErrK) (t : List Ev) (h : gate o tg d c x = .rej k t) : k.rn r = k :=
  (gate_eq_wf h).rej_rn r

theorem Gate.Wf.acc_tr_rn {y : PyVal} {t : List Ev} (h : (Gate.acc y t).Wf) (r : Rn) : t.map (Ev.rn r) = t :=
  h.log.rn r

theorem Gate.Wf.rej_tr_rn {k : ErrK} {t : List Ev} (h : (Gate.rej k t).Wf) (r : Rn) : t.map (Ev.rn r) = t :=
  h.log.rn r

theorem finishPreds_rn (r : Rn) (vid : Nat) (z : PyVal) (t : List Ev) (q : List Nat × List Ev × Option Exn) :
    finishPreds (r.v vid) z (t.map (Ev.rn r)) (rnPR r q) = rnOT r (finishPreds vid z t q) := by
  obtain ⟨f, t2, e⟩ := q
  cases e with
  | some e => simp [finishPreds, rnPR]
  | none =>
    cases f with
    | nil => simp [finishPreds, rnPR]
    | cons a f => simp [finishPreds, rnPR, ErrK.rn]

theorem scalarStep_rn (r : Rn) (o : Oracle) (m : Mode) (vid : Nat) (tg : Ty) (c : Option CoerceK)
    (pre : List Proc) (ps aps : List Pred) (x : PyVal) :
    scalarStep o m (r.v vid) tg c (pre.map (Proc.rn r)) (ps.map (Pred.rn r)) (aps.map (Pred.rn r)) x
      = rnOT r (scalarStep o m vid tg c pre ps aps x) := by
  unfold scalarStep
  by_cases hg : m = .sync ∧ aps ≠ []
  · have : m = .sync ∧ aps.map (Pred.rn r) ≠ [] := ⟨hg.1, by simpa using hg.2⟩
    rw [if_pos hg, if_pos this]; rfl
  · have : ¬(m = .sync ∧ aps.map (Pred.rn r) ≠ []) := by simpa using hg
    rw [if_neg hg, if_neg this]
    have htr := gate_tr r o tg tg c x
    cases hgt : gate o tg tg c x with
    | exn e t => simp only [hgt, Gate.tr] at htr; simp [rnOT, Out.rn, htr]
    | rej k t =>
      simp only [hgt, Gate.tr] at htr
      simp [htr, gate_rej r o tg tg c x k t hgt]
    | acc y t =>
      simp only [hgt, Gate.tr] at htr
      simp only [runProcs_rn]
      cases hp : runProcs pre y with
      | mk a t2 =>
        cases a with
        | error e => simp [htr]
        | ok z =>
          simp only [contPreds_rn]
          rw [← finishPreds_rn]
          simp [htr]

theorem equalsStep_rn (r : Rn) (vid : Nat) (mt : PyVal) (pre : List Proc) (pid : Nat) (x : PyVal) :
    equalsStep (r.v vid) mt (pre.map (Proc.rn r)) (r.p pid) x = rnOT r (equalsStep vid mt pre pid x) := by
  unfold equalsStep
  by_cases h : mt.ty = x.ty
  · simp only [if_pos h, runProcs_rn]
    cases hp : runProcs pre x with
    | mk a t =>
      cases a with
      | error e => simp
      | ok z =>
        simp only
        cases pyEqX z mt with
        | error e => simp
        | ok b => cases b <;> simp [ErrK.rn]
  · simp [if_neg h, ErrK.rn]

theorem noneStep_rn (r : Rn) (o : Oracle) (vid : Nat) (c : Option CoerceK) (x : PyVal) :
    noneStep o (r.v vid) c x = rnOT r (noneStep o vid c x) := by
  unfold noneStep
  cases c with
  | some c =>
    simp only
    have hw := applyCoerce_wf o .none .none default c x
    cases hg : applyCoerce o .none .none default c x with
    | acc y t => rw [hg] at hw; simp [hw.acc_tr_rn r]
    | rej k t => rw [hg] at hw; simp [hw.rej_tr_rn r, hw.rej_rn r]
    | exn e t => exact absurd hg (hw.ne_exn e t)
  | none => simp only; split <;> simp [rnOT, Out.rn, Inv.rn, Inv.rnL, ErrK.rn]

theorem isDictStep_rn (r : Rn) (vid : Nat) (x : PyVal) :
    isDictStep (r.v vid) x = rnOT r (isDictStep vid x) := by
  unfold isDictStep
  split <;> simp [ErrK.rn]

theorem ContPre.rn {α gateTy destTy} {items : PyVal → Option α} {exn o m vid ps aps c x p} (r : Rn)
    (h : ContPre gateTy destTy items exn o m vid ps aps c x p) :
    ContPre gateTy destTy items exn o m (r.v vid) (ps.map (Pred.rn r)) (aps.map (Pred.rn r)) c x (rnPre r p) := by
  have hguard : ¬(m = .sync ∧ aps ≠ []) → ¬(m = .sync ∧ aps.map (Pred.rn r) ≠ []) :=
    fun hg h' => hg ⟨h'.1, by simpa using h'.2⟩
  have pr : ∀ {y q}, contPreds m ps aps y = q →
      contPreds m (ps.map (Pred.rn r)) (aps.map (Pred.rn r)) y = rnPR r q := fun hq => hq ▸ contPreds_rn r m ps aps _
  cases h with
  | guard h1 h2 => exact .guard h1 (by simpa using h2)
  | rej hg hgate =>
    simp only [rnPre, rnOT, Out.rn, Inv.rn, Inv.rnL, (gate_eq_wf hgate).rej_rn r, (gate_eq_wf hgate).rej_tr_rn r]
    exact .rej (hguard hg) hgate
  | predExn hg hgate hp =>
    simp only [rnPre, rnOT, Out.rn, List.map_append, (gate_eq_wf hgate).acc_tr_rn r]
    exact .predExn (hguard hg) hgate (pr hp)
  | predFail hg hgate hp =>
    simp only [rnPre, rnOT, Out.rn, Inv.rn, Inv.rnL, ErrK.rn, List.map_append, (gate_eq_wf hgate).acc_tr_rn r]
    exact .predFail (hguard hg) hgate (pr hp)
  | noItems hg hgate hp hi =>
    simp only [rnPre, rnOT, Out.rn, List.map_append, (gate_eq_wf hgate).acc_tr_rn r]
    exact .noItems (hguard hg) hgate (pr hp) hi
  | pass hg hgate hp hi =>
    simp only [rnPre, List.map_append, (gate_eq_wf hgate).acc_tr_rn r]
    exact .pass (hguard hg) hgate (pr hp) hi

theorem seqPre_rn (r : Rn) (k : SeqKind) (o : Oracle) (m : Mode) (vid : Nat) (ps aps : List Pred)
    (c : Option CoerceK) (x : PyVal) :
    seqPre k o m (r.v vid) (ps.map (Pred.rn r)) (aps.map (Pred.rn r)) c x
      = rnPre r (seqPre k o m vid ps aps c x) :=
  seqPre_eq_iff.2 ((seqPre_eq_iff.1 rfl).rn r)

theorem mapPre_rn (r : Rn) (o : Oracle) (m : Mode) (vid : Nat) (ps aps : List Pred) (c : Option CoerceK)
    (x : PyVal) :
    mapPre o m (r.v vid) (ps.map (Pred.rn r)) (aps.map (Pred.rn r)) c x = rnPre r (mapPre o m vid ps aps c x) :=
  mapPre_eq_iff.2 ((mapPre_eq_iff.1 rfl).rn r)

theorem NtuplePre.rn {o vid c lp n x p} (r : Rn)
    (h : NtuplePre o vid c lp n x p) : NtuplePre o (r.v vid) c (r.p lp) n x (rnPre r p) := by
  cases h with
  | rej hg =>
    simp only [rnPre, rnOT, Out.rn, Inv.rn, Inv.rnL, (gate_eq_wf hg).rej_rn r, (gate_eq_wf hg).rej_tr_rn r]
    exact .rej hg
  | noLen hg hl => simp only [rnPre, rnOT, Out.rn, (gate_eq_wf hg).acc_tr_rn r]; exact .noLen hg hl
  | arity hg hl hn =>
    simp only [rnPre, rnOT, Out.rn, Inv.rn, Inv.rnL, ErrK.rn, (gate_eq_wf hg).acc_tr_rn r]
    exact .arity hg hl hn
  | noItems hg hl hi => simp only [rnPre, rnOT, Out.rn, (gate_eq_wf hg).acc_tr_rn r]; exact .noItems hg hl hi
  | pass hg hl hi => simp only [rnPre, (gate_eq_wf hg).acc_tr_rn r]; exact .pass hg hl hi

theorem ntuplePre_rn (r : Rn) (o : Oracle) (vid : Nat) (c : Option CoerceK) (lp n : Nat) (x : PyVal) :
    ntuplePre o (r.v vid) c (r.p lp) n x = rnPre r (ntuplePre o vid c lp n x) :=
  ntuplePre_eq_iff.2 ((ntuplePre_eq_iff.1 rfl).rn r)

theorem RecPre.rn {o m vid cfg x p} (r : Rn)
    (h : RecPre o m vid cfg x p) : RecPre o m (r.v vid) cfg x (rnPre r p) := by
  cases h with
  | guard h1 h2 => exact .guard h1 h2
  | rej hg hgate =>
    simp only [rnPre, rnOT, Out.rn, Inv.rn, Inv.rnL, (recGate_eq_wf hgate).rej_rn r, (recGate_eq_wf hgate).rej_tr_rn r]
    exact .rej hg hgate
  | noItems hg hgate hd => simp only [rnPre, rnOT, Out.rn, (recGate_eq_wf hgate).acc_tr_rn r]; exact .noItems hg hgate hd
  | unknown hg hgate hd hu =>
    simp only [rnPre, rnOT, Out.rn, Inv.rn, Inv.rnL, ErrK.rn, (recGate_eq_wf hgate).acc_tr_rn r]
    exact .unknown hg hgate hd hu
  | pass hg hgate hd hu => simp only [rnPre, (recGate_eq_wf hgate).acc_tr_rn r]; exact .pass hg hgate hd hu

theorem recPre_rn (r : Rn) (o : Oracle) (m : Mode) (vid : Nat) (cfg : RecCfg) (x : PyVal) :
    recPre o m (r.v vid) cfg x = rnPre r (recPre o m vid cfg x) :=
  recPre_eq_iff.2 ((recPre_eq_iff.1 rfl).rn r)

theorem loopItems_rn (r : Rn) (ev : Ev1) (hq : Bool) (xs : List PyVal) (i : Nat) (ne : Bool) :
    loopItems (fun y => rnRes r (ev y)) hq xs i ne = (loopItems ev hq xs i ne).map (LoopR.rn r) := by
  fun_induction loopItems ev hq xs i ne <;> simp [loopItems, *]

theorem finishSeq_rn (r : Rn) (k : SeqKind) (vid : Nat) (y : PyVal) (l : LoopR) :
    finishSeq k (r.v vid) y (l.rn r) = (finishSeq k vid y l).rn r := by
  unfold finishSeq
  obtain ⟨ws, es, t, e⟩ := l
  cases e with
  | some e => simp
  | none =>
    cases es with
    | nil => simp
    | cons a es =>
      cases k <;>
        simp [Inv.rnL_eq_map, ErrK.rn, List.map_map, Function.comp_def]

theorem seqStep_rn (r : Rn) (k : SeqKind) (o : Oracle) (m : Mode) (vid : Nat) (ps aps : List Pred)
    (c : Option CoerceK) (ev : Ev1) (x : PyVal) :
    seqStep k o m (r.v vid) (ps.map (Pred.rn r)) (aps.map (Pred.rn r)) c (fun y => rnRes r (ev y)) x
      = rnRes r (seqStep k o m vid ps aps c ev x) := by
  unfold seqStep
  rw [seqPre_rn]
  cases seqPre k o m vid ps aps c x with
  | inl p => rfl
  | inr q =>
    obtain ⟨y, xs, t⟩ := q
    simp only [rnPre, loopItems_rn]
    cases loopItems ev (k == .set) xs 0 true with
    | none => rfl
    | some l => simp only [Option.map_some, rnRes_some, rnOT, finishSeq_rn]; simp [LoopR.rn]

theorem loopFields_rn (r : Rn) (evs : List Ev1) (xs : List PyVal) (i : Nat) :
    loopFields (rnEvs r evs) xs i = (loopFields evs xs i).map (LoopR.rn r) := by
  fun_induction loopFields evs xs i with
  | case7 evs xs i hne =>
    rw [loopFields.eq_2]
    · rfl
    · intro ev evs' x xs' he hx
      cases evs with
      | nil => cases he
      | cons f fs => exact hne f fs x xs' rfl hx
  | _ => simp [loopFields, *]

theorem runObjCheck_rn (r : Rn) (oc : Option ObjCheck) (vid : Nat) (obj : PyVal) :
    runObjCheck oc (r.v vid) obj = rnOT r (runObjCheck oc vid obj) := by
  unfold runObjCheck
  cases oc with
  | none => simp
  | some c => simp only; cases hf : c.f obj <;> simp [rnOT, Out.rn, Inv.rn, Inv.rnL, ErrK.rn, Ev.rn]

theorem ntupleFinish_rn (r : Rn) (vid : Nat) (oc : Option ObjCheck) (y : PyVal) (t : List Ev) (l : LoopR) :
    ntupleFinish (r.v vid) oc y (t.map (Ev.rn r)) (l.rn r) = rnOT r (ntupleFinish vid oc y t l) := by
  unfold ntupleFinish
  obtain ⟨ws, es, t', e⟩ := l
  cases e with
  | some e => simp
  | none =>
    cases es with
    | cons a es =>
      simp [Inv.rnL_eq_map, ErrK.rn, List.map_map, Function.comp_def]
    | nil =>
      simp only [LoopR.rn, List.map_nil, List.isEmpty_nil, Bool.not_true, Bool.false_eq_true, if_false,
        runObjCheck_rn]
      simp

theorem ntupleStep_rn (r : Rn) (o : Oracle) (vid : Nat) (oc : Option ObjCheck) (c : Option CoerceK)
    (lp : Nat) (evs : List Ev1) (x : PyVal) :
    ntupleStep o (r.v vid) oc c (r.p lp) (rnEvs r evs) x = rnRes r (ntupleStep o vid oc c lp evs x) := by
  unfold ntupleStep
  have hl : (rnEvs r evs).length = evs.length := by simp [rnEvs]
  rw [hl, ntuplePre_rn]
  cases ntuplePre o vid c lp evs.length x with
  | inl p => simp [rnPre]
  | inr q =>
    obtain ⟨y, xs, t⟩ := q
    simp only [rnPre, loopFields_rn]
    cases loopFields evs xs 0 with
    | none => simp
    | some l => simp only [Option.map_some, rnRes_some, ntupleFinish_rn]

theorem mapLoop_rn (r : Rn) (evk evv : Ev1) (kvs acc : List (PyVal × PyVal)) :
    mapLoop (fun y => rnRes r (evk y)) (fun y => rnRes r (evv y)) kvs acc
      = (mapLoop evk evv kvs acc).map (MapR.rn r) := by
  fun_induction mapLoop evk evv kvs acc with
  | case4 k v rest acc ko tk hko hk | case5 k v rest acc ko tk hko hk =>
    cases ko with
    | raised e => exact absurd rfl (hko e)
    | _ => simp [mapLoop, *]
  | case9 k v rest acc ko tk hko hk vo tv hvo hv hl hkv | case10 k v rest acc ko tk hko hk vo tv hvo hv l hl hkv =>
    cases ko with
    | raised e => exact absurd rfl (hko e)
    | valid kw =>
      cases vo with
      | raised e => exact absurd rfl (hvo e)
      | valid vw => exact absurd rfl (hkv kw vw rfl)
      | invalid ve => simp [mapLoop, *]
    | invalid ke =>
      cases vo with
      | raised e => exact absurd rfl (hvo e)
      | _ => simp [mapLoop, *]
  | _ => simp [mapLoop, *]

theorem mapFinish_rn (r : Rn) (vid : Nat) (y : PyVal) (t : List Ev) (a : MapR) :
    mapFinish (r.v vid) y (t.map (Ev.rn r)) (a.rn r) = rnOT r (mapFinish vid y t a) := by
  unfold mapFinish
  obtain ⟨out, ks, shape, errs, t', e⟩ := a
  cases e with
  | some e => simp
  | none =>
    cases ks with
    | nil => simp
    | cons k ks => simp [Inv.rnL_eq_map, ErrK.rn]

theorem mapStep_rn (r : Rn) (o : Oracle) (m : Mode) (vid : Nat) (ps aps : List Pred) (c : Option CoerceK)
    (evk evv : Ev1) (x : PyVal) :
    mapStep o m (r.v vid) (ps.map (Pred.rn r)) (aps.map (Pred.rn r)) c
        (fun y => rnRes r (evk y)) (fun y => rnRes r (evv y)) x
      = rnRes r (mapStep o m vid ps aps c evk evv x) := by
  unfold mapStep
  rw [mapPre_rn]
  cases mapPre o m vid ps aps c x with
  | inl p => simp [rnPre]
  | inr q =>
    obtain ⟨y, kvs, t⟩ := q
    simp only [rnPre, mapLoop_rn]
    cases mapLoop evk evv kvs [] with
    | none => simp
    | some a => simp only [Option.map_some, rnRes_some, mapFinish_rn]

theorem recLoop_rn (r : Rn) (vid : Nat) (dv : PyVal) (data : List (PyVal × PyVal)) (evs : List Ev1)
    (ks : List PyVal) (reqs : List Bool) :
    recLoop (r.v vid) dv data (rnEvs r evs) ks reqs = (recLoop vid dv data evs ks reqs).map (RecR.rn r) := by
  fun_induction recLoop vid dv data evs ks reqs with
  | case10 evs ks reqs hne =>
    rw [recLoop.eq_2]
    · rfl
    · intro ev evs' k ks' req reqs' he hk hr
      cases evs with
      | nil => cases he
      | cons f fs => exact hne f fs k ks' req reqs' rfl hk hr
  | _ => simp [recLoop, ErrK.rn, *]

theorem runAObjCheck_rn (r : Rn) (m : Mode) (aoc : Option ObjCheck) (vid : Nat) (obj : PyVal) :
    runAObjCheck m aoc (r.v vid) obj = rnOT r (runAObjCheck m aoc vid obj) := by
  unfold runAObjCheck
  cases m with
  | sync => simp
  | async =>
    cases aoc with
    | none => simp
    | some a => simp only; cases hf : a.f obj <;> simp [rnOT, Out.rn, Inv.rn, Inv.rnL, ErrK.rn, Ev.rn]

theorem recFinish_rn (r : Rn) (m : Mode) (vid : Nat) (cfg : RecCfg) (y : PyVal) (t : List Ev) (a : RecR) :
    recFinish m (r.v vid) cfg y (t.map (Ev.rn r)) (a.rn r) = rnOT r (recFinish m vid cfg y t a) := by
  unfold recFinish
  obtain ⟨got, ks, errs, t', e⟩ := a
  cases e with
  | some e => simp
  | none =>
    cases ks with
    | cons k ks => simp [Inv.rnL_eq_map, ErrK.rn]
    | nil =>
      simp only [RecR.rn, List.isEmpty_nil, Bool.not_true, Bool.false_eq_true, if_false, runObjCheck_rn,
        runAObjCheck_rn]
      have hti : (if cfg.kind = .record then [Ev.into cfg.intoId] else []).map (Ev.rn r)
          = (if cfg.kind = .record then [Ev.into cfg.intoId] else []) := by
        split <;> simp [Ev.rn]
      cases ho : (runObjCheck cfg.oc vid (recBuild cfg got)).1 with
      | valid w => simp [ho, hti]
      | invalid e => simp [ho, hti]
      | raised e => simp [ho, hti]

theorem recordStep_rn (r : Rn) (o : Oracle) (m : Mode) (vid : Nat) (cfg : RecCfg) (evs : List Ev1) (x : PyVal) :
    recordStep o m (r.v vid) cfg (rnEvs r evs) x = rnRes r (recordStep o m vid cfg evs x) := by
  unfold recordStep
  rw [recPre_rn]
  cases recPre o m vid cfg x with
  | inl p => simp [rnPre]
  | inr q =>
    obtain ⟨y, data, t⟩ := q
    simp only [rnPre, recLoop_rn]
    cases recLoop vid y data evs cfg.keys cfg.reqs with
    | none => simp
    | some a => simp only [Option.map_some, rnRes_some, recFinish_rn]

theorem unionLoop_rn (r : Rn) (x : PyVal) (evs : List Ev1) :
    unionLoop x (rnEvs r evs)
      = (unionLoop x evs).map (fun q => (q.1, q.2.1.map (Inv.rn r), q.2.2.1.map (Ev.rn r), q.2.2.2)) := by
  fun_induction unionLoop x evs with
  | case1 => rfl
  | _ => simp [unionLoop, *]

theorem unionStep_rn (r : Rn) (vid : Nat) (evs : List Ev1) (x : PyVal) :
    unionStep (r.v vid) (rnEvs r evs) x = rnRes r (unionStep vid evs x) := by
  unfold unionStep
  rw [unionLoop_rn]
  cases unionLoop x evs with
  | none => simp
  | some q =>
    obtain ⟨w, es, t, e⟩ := q
    cases e with
    | some e => simp
    | none =>
      cases w with
      | some w => simp
      | none => simp [Inv.rnL_eq_map, ErrK.rn]

theorem rnRes_map (r : Rn) (φ ψ : Out × List Ev → Out × List Ev) (h : ∀ p, ψ (rnOT r p) = rnOT r (φ p)) (q : Res) :
    (rnRes r q).map ψ = rnRes r (q.map φ) := by
  cases q with
  | none => rfl
  | some p => exact congrArg some (h p)

theorem maybeStep_rn (r : Rn) (vid : Nat) (ev : Ev1) (x : PyVal) :
    maybeStep (r.v vid) (fun y => rnRes r (ev y)) x = rnRes r (maybeStep vid ev x) := by
  rcases maybeStep_cases x with ⟨oid, v, rfl⟩ | hx | hx
  · rw [maybeStep_just, maybeStep_just]
    exact rnRes_map r _ _ (fun p => by obtain ⟨out, t⟩ := p; cases out <;> rfl) _
  · rw [hx, hx]; rfl
  · rw [hx, hx]; rfl

theorem knrStep_rn (r : Rn) (ev : Ev1) (x : PyVal) :
    knrStep (fun y => rnRes r (ev y)) x = rnRes r (knrStep ev x) := by
  rw [knrStep_eq, knrStep_eq]
  exact rnRes_map r _ _ (fun p => by obtain ⟨out, t⟩ := p; cases out <;> rfl) _

theorem userStep_rn (r : Rn) (vid : Nat) (m : Mode) (ev : Ev1) (x : PyVal) :
    userStep (r.v vid) m (fun y => rnRes r (ev y)) x = rnRes r (userStep vid m ev x) := by
  rw [userStep_eq, userStep_eq]
  exact rnRes_map r _ _ (fun _ => by rfl) _

/-- **Identities are inert.**  For every validator tree, every environment of named validators,
    mode, amount of fuel and input: renaming the identities of the validator objects and of the
    predicate / processor objects in the tree renames them in the result — verdict, payload, error
    kinds, error values, positions, the callbacks logged — and changes nothing else. -/
theorem C19_rename (r : Rn) (o : Oracle) (env : Nat → V) (m : Mode) :
    ∀ n v x, run o (fun i => (env i).rn r) m n (v.rn r) x = rnRes r (run o env m n v x) := by
  intro n
  induction n with
  | zero => intro v x; simp [run]
  | succ n ih =>
    intro v x
    have ihf : ∀ w, run o (fun i => (env i).rn r) m n (w.rn r) = fun y => rnRes r (run o env m n w y) :=
      fun w => funext (ih w)
    have ihL : ∀ ws : List V, (V.rnL r ws).map (run o (fun i => (env i).rn r) m n)
        = rnEvs r (ws.map (run o env m n)) := by
      intro ws
      rw [V.rnL_eq_map]
      simp only [rnEvs, List.map_map]
      apply List.map_congr_left
      intro w _
      exact ihf w
    cases v with
    | scalar | equals | noneV | isDict =>
      simp only [V.rn, run, scalarStep_rn, equalsStep_rn, noneStep_rn, isDictStep_rn, rnRes_some]
    | always vid => rfl
    | list | set | utuple | map | maybe | knr | user =>
      simp only [V.rn, run, ihf, seqStep_rn, mapStep_rn, maybeStep_rn, knrStep_rn, userStep_rn]
    | ntuple | record | union => simp only [V.rn, run, ihL, ntupleStep_rn, recordStep_rn, unionStep_rn]
    | optional vid nv inner =>
      simp only [V.rn, run, ihf]
      exact unionStep_rn r vid [run o env m n nv, run o env m n inner] x
    | «lazy» vid ref => exact ih (env ref) x

/-- **Equality is a behavioural congruence.**  If two validators are the same tree once object
    identities are renamed (`r` on one side, `r'` on the other) — which is what `==` decides: same
    class and target type, equal children, predicates, processors, coercer, requiredness, unknown-key
    policy, and the same user callbacks — and the named validators they refer to are too, then on
    every input, in both modes and for any amount of fuel, they return the same result up to those
    renamings. -/
theorem C19_congruence (r r' : Rn) (o : Oracle) (env env' : Nat → V) (m : Mode) (a b : V)
    (hab : a.rn r = b.rn r') (henv : ∀ i, (env i).rn r = (env' i).rn r') (n : Nat) (x : PyVal) :
    rnRes r (run o env m n a x) = rnRes r' (run o env' m n b x) := by
  rw [← C19_rename, ← C19_rename, hab]
  have : (fun i => (env i).rn r) = fun i => (env' i).rn r' := funext henv
  rw [this]

/-- in particular they agree on whether the call returns, on the verdict and on the payload -/
theorem C19_same_verdict (r r' : Rn) (o : Oracle) (env env' : Nat → V) (m : Mode) (a b : V)
    (hab : a.rn r = b.rn r') (henv : ∀ i, (env i).rn r = (env' i).rn r') (n : Nat) (x : PyVal) (w : PyVal) :
    (∃ t, run o env m n a x = some (.valid w, t)) ↔ (∃ t, run o env' m n b x = some (.valid w, t)) := by
  have valid : ∀ (ρ : Rn) (q : Res), (∃ t, q = some (.valid w, t)) ↔ ∃ t, rnRes ρ q = some (.valid w, t) := by
    intro ρ q
    cases q with
    | none => exact ⟨nofun, nofun⟩
    | some p =>
      obtain ⟨out, t⟩ := p
      cases out with
      | valid w' => exact ⟨fun ⟨_, h⟩ => by cases h; exact ⟨_, rfl⟩, fun ⟨_, h⟩ => by cases h; exact ⟨_, rfl⟩⟩
      | invalid e | raised e => exact ⟨fun ⟨_, h⟩ => (nomatch h), fun ⟨_, h⟩ => (nomatch h)⟩
  exact (valid r _).trans (C19_congruence r r' o env env' m a b hab henv n x ▸ (valid r' _).symm)

/-- two constructions of `ListValidator(IntValidator(Min(0)), predicates=[MinItems(1)])`: different
    objects throughout (validator identities 1,2 vs 7,8; predicate identities 3,4 vs 5,6) -/
def exEqA : V := .list 1 (.scalar 2 .int none [] [⟨3, .min (.int 0) false⟩] []) [⟨4, .minItems 1⟩] [] none
def exEqB : V := .list 7 (.scalar 8 .int none [] [⟨5, .min (.int 0) false⟩] []) [⟨6, .minItems 1⟩] [] none

example : exEqA.rn ⟨fun _ => 0, fun _ => 0⟩ = exEqB.rn ⟨fun _ => 0, fun _ => 0⟩ := by
  simp [exEqA, exEqB, V.rn, Pred.rn]

/-- a renaming that keeps the two levels apart: list ↦ 100, item ↦ 200 on both sides -/
example : exEqA.rn ⟨fun p => p % 2, fun v => if v = 1 then 100 else 200⟩
    = exEqB.rn ⟨fun p => p % 2, fun v => if v = 7 then 100 else 200⟩ := by
  simp [exEqA, exEqB, V.rn, Pred.rn]

end Koda

