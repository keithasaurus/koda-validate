/-
  C04 — `DictValidatorAny` *as written in /repo's current source*.

  `Generated/DictAnySrc.lean` is rewritten on every run from the AST of `DictValidatorAny._validate_to_tuple` and
  `_validate_to_tuple_async` (koda_validate/dictionary.py).  Interpreting the translated methods
  (`KodaModel/PyDictAny.lean`) is the model's `recordStep` for the `dictAny` kind, for every schema, policy, whole-object
  check and input.
-/
import KodaModel.Properties.C04Text

namespace Koda

/-- the model-side configuration of a `DictValidatorAny` -/
def DictAnyCfg.toRec (c : DictAnyCfg) : RecCfg :=
  { kind := .dictAny, keys := c.keys, reqs := c.reqs, cls := default, fieldNames := [], defaults := [], intoId := 0,
    into := fun _ => .none, oc := c.oc, aoc := c.aoc, failUnknown := c.failUnknown, coerce := none }

def dGate : DStmt := .ite (.not (.typeIs .data .dictTy)) [.ret (.pair (.bool false) (.mkInvalid (.mkTypeErr .dictTy) .data .self))] []

def dScanBody : List DStmt :=
  [.ite (.notIn (.var .keyU) (.selfAttr .keysSet)) [.ret (.pair (.bool false) (.mkInvalid (.selfAttr .unknownKeysErr) .data .self))] []]

def dScan : DStmt := kScan .data

def dLoopBody (aw : Bool) : List DStmt :=
  [.ite (.notIn (.var .keyU) .data)
     [.ite (.var .keyRequired) [.setItem .errs (.var .keyU) (.mkInvalid .missingKeyErr .data .self)] []]
     [.assign2 .success .newVal
        (if aw then .await (.call1 (.var .validator) (.subscript .data (.var .keyU)))
         else .call1 (.var .validator) (.subscript .data (.var .keyU))),
      .ite (.not (.var .success)) [.setItem .errs (.var .keyU) (.var .newVal)]
        [.ite (.not (.var .errs)) [.setItem .successDict (.var .keyU) (.var .newVal)] []]]]

def dLoop (m : Mode) : DStmt := kLoop m dLoopBody

def dOc : DExp := .and (.selfAttr .validateObject) (.walrus .result (.call1 (.selfAttr .validateObject) (.var .successDict)))
def dAoc : DExp :=
  .and (.selfAttr .validateObjectAsync) (.walrus .result (.await (.call1 (.selfAttr .validateObjectAsync) (.var .successDict))))
def dRetCustom : List DStmt := [.ret (.pair (.bool false) (.mkInvalid (.var .result) (.var .successDict) .self))]
def dRetKeys : List DStmt := [.ret (.pair (.bool false) (.mkInvalid (.mkKeyErrs (.var .errs)) .data .self))]

def dFinalSync : DStmt := .ite (.var .errs) dRetKeys [.ite dOc dRetCustom []]
def dFinalAsync : DStmt := .ite (.var .errs) dRetKeys [.ite dOc dRetCustom [.ite dAoc dRetCustom []]]
def dRetOk : DStmt := .ret (.pair (.bool true) (.var .successDict))

def dFinal : Mode → DStmt
  | .sync => dFinalSync
  | .async => dFinalAsync

def dBody (m : Mode) : List DStmt :=
  [dGate, dScan, .assign .successDict .emptyDict, .assign .errs .emptyDict, dLoop m, dFinal m, dRetOk]

theorem dictAnySync_eq : Src.dictAnySync = dGuard :: dBody .sync := rfl
theorem dictAnyAsync_eq : Src.dictAnyAsync = dBody .async := rfl

theorem dGate_exec (cfg : DictAnyCfg) (x : PyVal) :
    GateOK cfg x [dGate] .data (if x.ty = .dict then .acc x [] else .rej (.type .dict) []) :=
  typeGate_ok cfg x _ (x.ty = .dict) (fun _ => rfl)

/-- `for key_ in data: if key_ not in self._keys_set: return …` -/
theorem dforFold_scan (cfg : DictAnyCfg) (x : PyVal) :
    ∀ (ks : List PyVal) (st : DSt),
      (ks.any (fun k => !memL k cfg.keys) = true →
        ∃ st', dforFold (fun st => DStmt.execL cfg x st dScanBody) .keyU ks st =
          .ok (.returned (.pair (.bool false) (.invalid (.mk (.extraKeys cfg.keys) x cfg.vid []))) st') ∧ st'.tr = st.tr) ∧
      (ks.any (fun k => !memL k cfg.keys) = false →
        ∃ st', dforFold (fun st => DStmt.execL cfg x st dScanBody) .keyU ks st = .ok (.next st') ∧ st'.tr = st.tr) := by
  intro ks st
  obtain ⟨s1, s2⟩ := kforFold_scan cfg x .data x ks st (denotes_data cfg x st)
  refine ⟨s1, fun h => ?_⟩
  obtain ⟨st', e1, e2, _⟩ := s2 h
  exact ⟨st', e1, e2⟩

theorem dScan_exec (cfg : DictAnyCfg) (x : PyVal) (st : DSt) (rest : List DStmt) (kvs : List (PyVal × PyVal))
    (hx : dictItems x = some kvs) : ScanOK cfg x .data x st rest kvs :=
  kScan_exec cfg x .data x st rest kvs hx (denotes_data cfg x st)

structure DInv (st : DSt) (sd : List (PyVal × PyVal)) (es : List (PyVal × Inv)) : Prop where
  sd : st.env.successDict = .dictPayload sd
  er : (es = [] ∧ st.env.errs = .dictPayload []) ∨ (es ≠ [] ∧ st.env.errs = .keyErrs es)

def built (ks : List PyVal) (got : List (Option PyVal)) : List (PyVal × PyVal) :=
  (ks.zip got).filterMap (fun kg => kg.2.map (fun w => (kg.1, w)))

def KeysOK (cfg : DictAnyCfg) (x : PyVal) (aw : Bool) (data : List (PyVal × PyVal)) (evs : List Ev1) (ks : List PyVal)
    (reqs : List Bool) (st : DSt) (sd : List (PyVal × PyVal)) (es : List (PyVal × Inv)) : Prop :=
  (recLoop cfg.vid x data evs ks reqs = none →
    ∃ t, dforFold3 (fun st => DStmt.execL cfg x st (dLoopBody aw)) .keyU .validator .keyRequired (ks.zip (evs.zip reqs)) st =
      .error (.diverge, t)) ∧
  (∀ r e, recLoop cfg.vid x data evs ks reqs = some r → r.r = some e →
    dforFold3 (fun st => DStmt.execL cfg x st (dLoopBody aw)) .keyU .validator .keyRequired (ks.zip (evs.zip reqs)) st =
      .error (.exn e, st.tr ++ r.t)) ∧
  (∀ r, recLoop cfg.vid x data evs ks reqs = some r → r.r = none →
    ∃ st1 es', dforFold3 (fun st => DStmt.execL cfg x st (dLoopBody aw)) .keyU .validator .keyRequired (ks.zip (evs.zip reqs)) st =
        .ok (.next st1) ∧ st1.tr = st.tr ++ r.t ∧ r.ks = es'.map Prod.fst ∧ r.errs = es'.map Prod.snd ∧
      (es ++ es' = [] → DInv st1 (sd ++ built ks r.got) []) ∧ (∃ sd', DInv st1 sd' (es ++ es')))

theorem errs_iff (v : AV) (es : Entries) :
    ((es = [] ∧ v = .dictPayload []) ∨ (es ≠ [] ∧ v = .keyErrs es)) ↔ v = errsAV es := by
  cases es with
  | nil => simp [errsAV]
  | cons a l => simp [errsAV]

theorem DInv.toS {st : DSt} {sd : List (PyVal × PyVal)} {es : Entries} (h : DInv st sd es) (cfg : DictAnyCfg)
    (x : PyVal) : SInv cfg x .data x sd st [] es :=
  ⟨denotes_data cfg x st, (errs_iff _ es).mp h.er, Pay.exact es (by rw [h.sd]; simp [pairsOf])⟩

theorem SInv.toD {cfg : DictAnyCfg} {x : PyVal} {sd : List (PyVal × PyVal)} {st : DSt} {kg : Slots}
    {es : Entries} (h : SInv cfg x .data x sd st kg es) :
    (es = [] → DInv st (sd ++ pairsOf kg) []) ∧ ∃ sd', DInv st sd' es := by
  obtain ⟨_, her, sd', hsd, hex⟩ := h
  refine ⟨?_, sd', hsd, (errs_iff _ es).mpr her⟩
  intro h0
  subst h0
  exact ⟨hex rfl ▸ hsd, .inl ⟨rfl, her⟩⟩

theorem dLoopBody_step (cfg : DictAnyCfg) (x : PyVal) (aw : Bool) (data : List (PyVal × PyVal)) (hx : dictItems x = some data)
    (sd : List (PyVal × PyVal)) :
    StepOK cfg.vid x data (SInv cfg x .data x sd) (fun st => DStmt.execL cfg x st (dLoopBody aw)) :=
  sLoopBody_step cfg x .data aw x data hx sd

theorem dforFold3_keys (cfg : DictAnyCfg) (x : PyVal) (aw : Bool) (data : List (PyVal × PyVal)) (hx : dictItems x = some data) :
    ∀ (evs : List Ev1) (ks : List PyVal) (reqs : List Bool) (st : DSt) (sd : List (PyVal × PyVal)) (es : List (PyVal × Inv)),
      DInv st sd es → KeysOK cfg x aw data evs ks reqs st sd es := by
  intro evs ks reqs st sd es hinv
  have h := dforFold3_recLoop cfg.vid x data _ _ (dLoopBody_step cfg x aw data hx sd) evs ks reqs st [] es (hinv.toS cfg x)
  unfold KeysOK
  cases hl : recLoop cfg.vid x data evs ks reqs with
  | none =>
    rw [hl] at h
    exact ⟨fun _ => h, fun _ _ h' => (nomatch h'), fun _ h' => (nomatch h')⟩
  | some r =>
    rw [hl] at h
    refine ⟨fun h' => (nomatch h'), fun r' e h' hr => ?_, fun r' h' hr => ?_⟩
    · cases h'
      simp only [LoopSim, hr] at h
      exact h
    · cases h'
      simp only [LoopSim, hr] at h
      obtain ⟨st1, es', j1, j2, j3, j4, _, j5⟩ := h
      exact ⟨st1, es', j1, j2, j3, j4, j5.toD⟩

theorem dFinal_eq (m : Mode) : dFinal m = .ite (.var .errs) (retKeys .data)
    [.ite (chk false .result .successDict) (retC .result .successDict) (aocPart m .result .successDict)] := by
  cases m <;> rfl

theorem dFinal_keys (cfg : DictAnyCfg) (x : PyVal) (m : Mode) (sd : List (PyVal × PyVal)) :
    KeysFin cfg x x (SInv cfg x .data x sd) [dFinal m, dRetOk] := by
  intro st _ es hne hinv
  rw [dFinal_eq]
  exact outD_keysInvalid cfg x st .data x es _ _ hinv.er hne rfl

theorem dFinal_checks (cfg : DictAnyCfg) (x : PyVal) (m : Mode) (sd : List (PyVal × PyVal)) (st : DSt) (kg : Slots)
    (hinv : SInv cfg x .data x sd st kg []) :
    outD (DStmt.execL cfg x st [dFinal m, dRetOk]) = some (finishChecks m cfg (.dict 0 (sd ++ pairsOf kg)) st.tr) := by
  obtain ⟨_, her, sd', hsd, hex⟩ := hinv
  rw [dFinal_eq, dexecL_ifErrs cfg x st [] _ _ _ her]
  exact checks_exec cfg x m .result .result .successDict st _ _ (fun _ _ => rfl) (fun _ _ => rfl)
    (hsd.trans (congrArg AV.dictPayload (hex rfl))) (.dict _)

theorem dFinal_ok (cfg : DictAnyCfg) (x : PyVal) (m : Mode) (fin : DStmt)
    (hfin : (m = .sync ∧ fin = dFinalSync ∧ cfg.aoc = none) ∨ (m = .async ∧ fin = dFinalAsync)) (st : DSt)
    (sd : List (PyVal × PyVal)) (hinv : DInv st sd []) :
    outD (DStmt.execL cfg x st [fin, dRetOk]) =
      some (match (runObjCheck cfg.oc cfg.vid (.dict 0 sd)).1 with
        | .valid _ => ((runAObjCheck m cfg.aoc cfg.vid (.dict 0 sd)).1,
                       st.tr ++ (runObjCheck cfg.oc cfg.vid (.dict 0 sd)).2 ++ (runAObjCheck m cfg.aoc cfg.vid (.dict 0 sd)).2)
        | other => (other, st.tr ++ (runObjCheck cfg.oc cfg.vid (.dict 0 sd)).2)) := by
  obtain rfl : fin = dFinal m := by
    rcases hfin with ⟨rfl, rfl, _⟩ | ⟨rfl, rfl⟩ <;> rfl
  rw [dFinal_checks cfg x m sd st [] (hinv.toS cfg x), show sd ++ pairsOf [] = sd from List.append_nil sd]
  rfl

theorem dTail_exec (cfg : DictAnyCfg) (x : PyVal) (m : Mode) (st : DSt) (data : List (PyVal × PyVal))
    (hx : dictItems x = some data) :
    outD (DStmt.execL cfg x st [.assign .successDict .emptyDict, .assign .errs .emptyDict, dLoop m, dFinal m, dRetOk]) =
      recRest cfg m cfg.toRec x data st.tr := by
  rw [dexecL_assign_cons cfg x st _ _ _ _ _ rfl, dexecL_assign_cons cfg x _ _ _ _ _ _ rfl]
  exact kTail_exec cfg x m cfg.toRec rfl rfl [] rfl x data dLoopBody [dFinal m, dRetOk] _
    (dLoopBody_step cfg x (awOf m) data hx []) (dFinal_keys cfg x m [])
    (fun st1 got _ hi => by rw [dFinal_checks cfg x m [] st1 _ hi, List.append_nil]; rfl) _
    ⟨denotes_data cfg x _, rfl, Pay.exact _ rfl⟩

theorem dict_of_ty (x : PyVal) (h : x.ty = .dict) : ∃ oid kvs, x = .dict oid kvs := by
  cases x <;> simp [PyVal.ty] at h
  exact ⟨_, _, rfl⟩

theorem dictGate_items (x y : PyVal) (t : List Ev)
    (h : (if x.ty = .dict then Gate.acc x [] else .rej (.type .dict) []) = .acc y t) : (dictItems y).isSome = true := by
  split at h
  · rename_i hty
    obtain ⟨oid, kvs, rfl⟩ := dict_of_ty x hty
    cases h
    rfl
  · cases h

theorem src_dictany (o : Oracle) (cfg : DictAnyCfg) (x : PyVal) (m : Mode) :
    outD (DStmt.execL cfg x { env := {}, tr := [] } (guardOf m ++ dBody m)) = recordStep o m cfg.vid cfg.toRec cfg.evs x := by
  refine recMethod_exec cfg x o m cfg.toRec rfl rfl rfl rfl [dGate] .data _ (dGate_exec cfg x) (dictGate_items x)
    fun st y data hy hrd => ?_
  obtain rfl := denotes_data_eq hrd
  exact dTail_exec cfg y m st data hy

/-- **the synchronous `DictValidatorAny`, as written in the source, is the model's `recordStep`** -/
theorem src_dictany_sync (o : Oracle) (cfg : DictAnyCfg) (x : PyVal) :
    runDictAnyMethod cfg Src.dictAnySync x = recordStep o .sync cfg.vid cfg.toRec cfg.evs x := by
  rw [runDictAnyMethod_eq, dictAnySync_eq]
  exact src_dictany o cfg x .sync

/-- **the asynchronous `DictValidatorAny`, as written in the source, is the model's `recordStep`** -/
theorem src_dictany_async (o : Oracle) (cfg : DictAnyCfg) (x : PyVal) :
    runDictAnyMethod cfg Src.dictAnyAsync x = recordStep o .async cfg.vid cfg.toRec cfg.evs x := by
  rw [runDictAnyMethod_eq, dictAnyAsync_eq]
  exact src_dictany o cfg x .async

theorem src_dictany_init : Src.dictAnyInit =
    "self.schema: Dict[Any, Validator[Any]] = schema ; self.validate_object = validate_object ; self.validate_object_async = validate_object_async ; if validate_object is not None and validate_object_async is not None:     _raise_cannot_define_validate_object_and_validate_object_async() ; self.fail_on_unknown_keys = fail_on_unknown_keys ; self._disallow_synchronous = bool(validate_object_async) ; self._fast_keys_sync = [] ; self._fast_keys_async = [] ; self._keys_set = set() ; for key, val in schema.items():     self._keys_set.add(key)     vldtr = val.validator if (is_not_required := isinstance(val, KeyNotRequired)) else val     self._fast_keys_sync.append((key, _wrap_sync_validator(vldtr), not is_not_required))     self._fast_keys_async.append((key, _wrap_async_validator(vldtr), not is_not_required)) ; self._unknown_keys_err = ExtraKeysErr(set(schema.keys()))" := rfl

/-! ### non-vacuity: `DictValidatorAny({"a": IntValidator(), "b": KeyNotRequired(StringValidator())})` on `{"a": "x"}` -/

example : runDictAnyMethod
      { vid := 1, keys := [.str [97], .str [98]],
        evs := [fun y => some (scalarStep default .sync 2 .int none [] [] [] y), fun y => some (scalarStep default .sync 3 .str none [] [] [] y)],
        reqs := [true, false], oc := none, aoc := none, failUnknown := false } Src.dictAnySync (.dict 9 [(.str [97], .str [120])]) =
    some (.invalid (.mk (.keys [.str [97]]) (.dict 9 [(.str [97], .str [120])]) 1 [.mk (.type .int) (.str [120]) 2 []]), []) := by
  rw [src_dictany_sync default]; rfl

end Koda
