/-
  C11, one node at a time.  `VDecides o env v x b`: the validator `v` terminates on `x` with verdict `b`.  For each kind
  of node of the fragment of `C11Rec` / `C11Glue`: if the children decide, with verdicts given by any function `a`, the
  node decides, with the verdict the tree specification prescribes (`node_*_validator`).
-/
import KodaModel.Properties.C11Containers
import KodaModel.Properties.C11Record
import KodaModel.Properties.C01Term
import KodaModel.Properties.C04
import KodaModel.Lemmas.Loops

namespace Koda

def Out.verdict : Out → Option Bool
  | .valid _ => some true
  | .invalid _ => some false
  | .raised _ => none

def Gives (ev : Ev1) (x : PyVal) (b : Bool) : Prop := ∃ out t, ev x = some (out, t) ∧ out.verdict = some b

theorem Gives.cases {ev : Ev1} {x : PyVal} {b : Bool} (h : Gives ev x b) :
    (∃ w t, ev x = some (.valid w, t) ∧ b = true) ∨ (∃ e t, ev x = some (.invalid e, t) ∧ b = false) := by
  obtain ⟨out, t, hx, hv⟩ := h
  cases out with
  | valid w => exact .inl ⟨w, t, hx, (Option.some.inj hv).symm⟩
  | invalid e => exact .inr ⟨e, t, hx, (Option.some.inj hv).symm⟩
  | raised e => cases hv

def VDecides (o : Oracle) (env : Nat → V) (v : V) (x : PyVal) (b : Bool) : Prop :=
  ∃ n out t, run o env .sync n v x = some (out, t) ∧ out.verdict = some b

theorem VDecides.at_fuel {o : Oracle} {env : Nat → V} {v : V} {x : PyVal} {b : Bool} (h : VDecides o env v x b) :
    ∃ N, ∀ n, N ≤ n → Gives (run o env .sync n v) x b := by
  obtain ⟨N, out, t, hr, hv⟩ := h
  exact ⟨N, fun n hn => ⟨out, t, run_mono_le o env .sync hn v x _ hr, hv⟩⟩

theorem VDecides.accepts_iff {o : Oracle} {env : Nat → V} {v : V} {x : PyVal} {b : Bool} (h : VDecides o env v x b) :
    (∃ n w t, run o env .sync n v x = some (.valid w, t)) ↔ b = true := by
  obtain ⟨n, h⟩ := h
  rcases Gives.cases h with ⟨w, t, hr, rfl⟩ | ⟨e, t, hr, rfl⟩
  · exact ⟨fun _ => rfl, fun _ => ⟨n, w, t, hr⟩⟩
  · refine ⟨fun ⟨n', w, t', hr'⟩ => ?_, nofun⟩
    cases (Run.unique ⟨n, hr⟩ ⟨n', hr'⟩).1

theorem DecidesAt.beq_true {root : J} {ref : Option (List Nat)} {j : J} {N : Nat} {y : PyVal} {b : Bool}
    (h : DecidesAt root ref j N y b) : (evalSchema root ref N j y == some true) = b := by
  rw [h N (Nat.le_refl N)]; cases b <;> rfl

theorem decides_iff {o : Oracle} {env : Nat → V} {v : V} {x : PyVal} {b : Bool} {root : J} {ref : Option (List Nat)}
    {j : J} {N : Nat} (hv : VDecides o env v x b) (hs : DecidesAt root ref j N x b) :
    (∀ n, N ≤ n → evalSchema root ref n j x = some true) ↔ ∃ n w t, run o env .sync n v x = some (.valid w, t) := by
  rw [hv.accepts_iff]
  exact ⟨fun h => Option.some.inj ((hs N (Nat.le_refl N)).symm.trans (h N (Nat.le_refl N))), fun hb => hb ▸ hs⟩

theorem shared_fuel {α : Type} (o : Oracle) (env : Nat → V) (f : α → V × PyVal) (a : α → Bool) : ∀ (l : List α),
    (∀ i ∈ l, VDecides o env (f i).1 (f i).2 (a i)) →
    ∃ N, ∀ n, N ≤ n → ∀ i ∈ l, Gives (run o env .sync n (f i).1) (f i).2 (a i)
  | [], _ => ⟨0, fun _ _ _ hi => nomatch hi⟩
  | i :: l, h => by
    obtain ⟨N1, h1⟩ := shared_fuel o env f a l (fun j hj => h j (List.mem_cons_of_mem _ hj))
    obtain ⟨N2, h2⟩ := (h i (List.mem_cons_self ..)).at_fuel
    refine ⟨max N1 N2, fun n hn j hj => ?_⟩
    rcases List.mem_cons.1 hj with rfl | hj
    · exact h2 n (by omega)
    · exact h1 n (by omega) j hj

theorem all_congr_mem {α : Type} (f g : α → Bool) : ∀ (l : List α), (∀ a ∈ l, f a = g a) → l.all f = l.all g
  | [], _ => rfl
  | a :: as, h => by
    simp only [List.all_cons, h a (by simp), all_congr_mem f g as (fun b hb => h b (by simp [hb]))]

inductive AllZip {α β : Type} (R : α → β → Prop) : List α → List β → Prop
  | nil : AllZip R [] []
  | cons {a b as bs} : R a b → AllZip R as bs → AllZip R (a :: as) (b :: bs)

theorem AllZip.length {α β : Type} {R : α → β → Prop} : ∀ {as : List α} {bs : List β}, AllZip R as bs → as.length = bs.length
  | [], [], _ => rfl
  | _ :: _, _ :: _, .cons _ h => by simp [AllZip.length h]

theorem AllZip.exists_left {α β : Type} {R : α → β → Prop} {as : List α} {bs : List β} (h : AllZip R as bs) :
    ∀ a ∈ as, ∃ b ∈ bs, R a b := by
  induction h with
  | nil => exact nofun
  | cons hab _ ih =>
    intro a ha
    rcases List.mem_cons.1 ha with rfl | ha
    · exact ⟨_, List.mem_cons_self, hab⟩
    · obtain ⟨b, hb, hr⟩ := ih a ha
      exact ⟨b, List.mem_cons_of_mem _ hb, hr⟩

theorem AllZip.forall_zip {α β : Type} {R : α → β → Prop} {as : List α} {bs : List β} (h : AllZip R as bs) :
    ∀ p ∈ as.zip bs, R p.1 p.2 := by
  induction h with
  | nil => exact nofun
  | cons hab _ ih => exact fun p hp => (List.mem_cons.1 hp).elim (fun e => e ▸ hab) (ih p)

/-- a property of every member (structural, so that it can be the list half of a mutual induction) -/
def AllP (P : V → Prop) : List V → Prop
  | [] => True
  | v :: vs => P v ∧ AllP P vs

theorem AllP.mem {P : V → Prop} : ∀ {vs : List V}, AllP P vs → ∀ v ∈ vs, P v
  | [], _, v, hv => by simp at hv
  | w :: ws, h, v, hv => by
    rcases List.mem_cons.1 hv with rfl | hv
    · exact h.1
    · exact AllP.mem h.2 v hv

theorem isListV_ty (x : PyVal) : (x.ty = .list) ↔ isListV x = true := by
  cases x <;> simp [PyVal.ty, isListV]

theorem isDictV_ty (x : PyVal) : (x.ty = .dict) ↔ isDictV x = true := by
  cases x <;> simp [PyVal.ty, isDictV]

theorem kw_minProperties (ev : J → PyVal → Option Bool) (root : J) (ref : Option (List Nat)) (o' : JObj) (n : Int) (oid : Nat) (kvs : List (PyVal × PyVal)) :
    evalKw ev root ref o' (kw "minProperties") (.int n) (.dict oid kvs) = some (decide ((kvs.length : Int) ≥ n)) := by
  unfold evalKw
  simp only [kw_beq, String.reduceEq, decide_false, decide_true, Bool.false_eq_true, Bool.or_false, ↓reduceIte]

theorem kw_maxProperties (ev : J → PyVal → Option Bool) (root : J) (ref : Option (List Nat)) (o' : JObj) (n : Int) (oid : Nat) (kvs : List (PyVal × PyVal)) :
    evalKw ev root ref o' (kw "maxProperties") (.int n) (.dict oid kvs) = some (decide ((kvs.length : Int) ≤ n)) := by
  unfold evalKw
  simp only [kw_beq, String.reduceEq, decide_false, decide_true, Bool.false_eq_true, Bool.or_false, ↓reduceIte]

theorem PredOK_minKeys (pr : Printer) (root : J) (ref : Option (List Nat)) (n : Int) (oid : Nat) (kvs : List (PyVal × PyVal)) :
    PredOK pr root ref (.minKeys n) (.dict oid kvs) :=
  PredOK_single pr root ref _ _ _ _ _ rfl (fun ev o' => kw_minProperties ev root ref o' n oid kvs) rfl

theorem PredOK_maxKeys (pr : Printer) (root : J) (ref : Option (List Nat)) (n : Int) (oid : Nat) (kvs : List (PyVal × PyVal)) :
    PredOK pr root ref (.maxKeys n) (.dict oid kvs) :=
  PredOK_single pr root ref _ _ _ _ _ rfl (fun ev o' => kw_maxProperties ev root ref o' n oid kvs) rfl

/-- the predicate is one C11's fragment has for this kind of value, its parameters are of the value's
    kind, and — for the two predicates where the emitted pattern does not mean what the predicate does
    (D13, D15) — pattern and predicate agree on this value -/
def predCheck : PredK → PyVal → Bool
  | .minLength _, .str _ => true
  | .maxLength _, .str _ => true
  | .exactLength _, .str _ => true
  | .startsWith (.str _), .str _ => true
  | .endsWith (.str _), .str _ => true
  | .notBlank, .str s => notBlankPattern s == !(stripWith isSpaceStr s).isEmpty
  | .regex p, .str s => !(p.source == notBlankText) && (p.search s == p.matchStart s)
  | .equalTo v, x => SameKind v x
  | .choices vs, x => vs.all (fun v => SameKind v x) && hashable x
  | .min m _, x => isNum m && isNum x
  | .max m _, x => isNum m && isNum x
  | .minItems _, .list _ _ => true
  | .maxItems _, .list _ _ => true
  | .uniqueItems, .list _ xs => jsonUnique xs == uniqueLoop xs [] [] && !snanInsideL xs
  | .minKeys _, .dict _ _ => true
  | .maxKeys _, .dict _ _ => true
  | _, _ => false

theorem predCheck_PredOK (pr : Printer) (root : J) (ref : Option (List Nat)) (p : PredK) (x : PyVal)
    (h : predCheck p x = true) : PredOK pr root ref p x := by
  unfold predCheck at h
  split at h
  · exact PredOK_minLength pr root ref _ _
  · exact PredOK_maxLength pr root ref _ _
  · exact PredOK_exactLength pr root ref _ _
  · exact PredOK_startsWith pr root ref _ _
  · exact PredOK_endsWith pr root ref _ _
  · exact PredOK_notBlank_partial pr root ref _ (by simpa using h)
  · simp only [Bool.and_eq_true, Bool.not_eq_true', beq_iff_eq] at h
    exact PredOK_regex_partial pr root ref _ _ (by simpa using h.1) h.2
  · exact PredOK_equalTo pr root ref _ _ h
  · simp only [Bool.and_eq_true, List.all_eq_true] at h
    exact PredOK_choices pr root ref _ _ h.1 h.2
  · simp only [Bool.and_eq_true] at h
    exact PredOK_min pr root ref _ _ _ h.1 h.2
  · simp only [Bool.and_eq_true] at h
    exact PredOK_max pr root ref _ _ _ h.1 h.2
  · exact PredOK_minItems pr root ref _ _ _
  · exact PredOK_maxItems pr root ref _ _ _
  · simp only [Bool.and_eq_true, Bool.not_eq_true', beq_iff_eq] at h
    exact PredOK_uniqueItems_partial pr root ref _ _ h.1 h.2
  · exact PredOK_minKeys pr root ref _ _ _
  · exact PredOK_maxKeys pr root ref _ _ _
  · cases h

theorem predCheck_noRaise (p : PredK) (x : PyVal) (h : predCheck p x = true) : ∃ b, p.call x = .ok b := by
  unfold predCheck at h
  split at h
  · exact ⟨_, rfl⟩
  · exact ⟨_, rfl⟩
  · exact ⟨_, rfl⟩
  · exact ⟨_, rfl⟩
  · exact ⟨_, rfl⟩
  · exact ⟨_, rfl⟩
  · exact ⟨_, rfl⟩
  · simp [PredK.call, pyEqX, (isSNaN_sameKind _ _ h).1, (isSNaN_sameKind _ _ h).2]
  · simp only [Bool.and_eq_true] at h
    simp [PredK.call, h.2]
  · simp only [Bool.and_eq_true] at h
    simp only [PredK.call]
    split
    · exact pyLt_num _ _ h.1 h.2
    · exact pyLe_num _ _ h.1 h.2
  · simp only [Bool.and_eq_true] at h
    simp only [PredK.call]
    split
    · exact pyLt_num _ _ h.2 h.1
    · exact pyLe_num _ _ h.2 h.1
  · exact ⟨_, rfl⟩
  · exact ⟨_, rfl⟩
  · simp only [Bool.and_eq_true, Bool.not_eq_true'] at h
    simp [PredK.call, pyIter, h.2]
  · exact ⟨_, rfl⟩
  · exact ⟨_, rfl⟩
  · cases h

theorem failing_isEmpty_eq (ps : List Pred) (x : PyVal) (h : NoRaise ps x) :
    (failing ps x).isEmpty = ps.all (fun p => holds p.k x) := by
  obtain ⟨h1, h2⟩ := runPreds_spec ps x h
  apply Bool.eq_iff_iff.2
  rw [← runPreds_all ps x, h1, h2]
  simp

theorem contPreds_noRaise (ps : List Pred) (y : PyVal) (hnr : NoRaise ps y) :
    contPreds .sync ps [] y = (failing ps y, (contPreds .sync ps [] y).2.1, none) ∧
    (failing ps y).isEmpty = ps.all (fun p => holds p.k y) := by
  obtain ⟨h1, h2⟩ := contPreds_spec .sync ps [] y hnr (fun p hp => nomatch hp)
  simp only [reduceCtorEq, if_false, List.append_nil] at h1
  exact ⟨by ext <;> simp [h1, h2], failing_isEmpty_eq ps y hnr⟩

def isDfltCoerce : Option CoerceK → Bool
  | some .dflt => true
  | _ => false

def keyTexts : List PyVal → Option (List (List Nat))
  | [] => some []
  | .str s :: ks => (keyTexts ks).map (fun ts => s :: ts)
  | _ :: _ => none

def textsNodup : List (List Nat) → Bool
  | [] => true
  | t :: ts => !ts.contains t && textsNodup ts

/-- record configurations of the fragment: no whole-object checks, no coercer, distinct string keys,
    one requiredness flag per key -/
def recCfgOK (cfg : RecCfg) (n : Nat) : Bool :=
  cfg.oc.isNone && cfg.aoc.isNone && cfg.coerce.isNone &&
  (match keyTexts cfg.keys with | some ts => textsNodup ts | none => false) &&
  cfg.keys.length == n && cfg.reqs.length == n

/-- `StringValidator()` without anything: what a JSON object's keys are validated with -/
def isPlainStrV : V → Bool
  | .scalar _ .str none [] [] [] => true
  | _ => false

def isDefaultNone : V → Bool
  | .noneV _ none => true
  | _ => false

theorem isDefaultNone_eq {nv : V} (h : isDefaultNone nv = true) : ∃ nvid, nv = .noneV nvid none := by
  unfold isDefaultNone at h
  split at h
  · exact ⟨_, rfl⟩
  · cases h

theorem isDfltCoerce_eq {c : Option CoerceK} (h : isDfltCoerce c = true) : c = some .dflt := by
  unfold isDfltCoerce at h
  split at h
  · rfl
  · cases h

theorem isListV_of_mem {x y : PyVal} (h : y ∈ listItems x) : isListV x = true := by
  cases x <;> first | rfl | cases h

theorem listItems_of_not_list {x : PyVal} (h : ¬ isListV x = true) : listItems x = [] := by
  cases x <;> first | rfl | exact absurd rfl h

theorem isJson_listItems {x : PyVal} (h : isJson x = true) : ∀ y ∈ listItems x, isJson y = true := by
  cases x with
  | list oid xs =>
    simp only [isJson] at h
    simp only [listItems]
    induction xs with
    | nil => intro y hy; cases hy
    | cons x xs ih =>
      simp only [isJsonL, Bool.and_eq_true] at h
      intro y hy
      rcases List.mem_cons.1 hy with rfl | hy
      · exact h.1
      · exact ih h.2 y hy
  | _ => intro y hy; cases hy

theorem sizeOf_listItems {x y : PyVal} (h : y ∈ listItems x) : sizeOf y < sizeOf x := by
  cases x with
  | list oid xs =>
    have := List.sizeOf_lt_of_mem (show y ∈ xs from h)
    simp only [PyVal.list.sizeOf_spec]
    omega
  | _ => cases h

theorem isDictV_of_mem {x : PyVal} {p : PyVal × PyVal} (h : p ∈ dictKvs x) : isDictV x = true := by
  cases x <;> first | rfl | cases h

theorem isJson_dictKvs {x : PyVal} (h : isJson x = true) :
    (∀ p ∈ dictKvs x, ∃ nm, p.1 = .str nm) ∧ ∀ p ∈ dictKvs x, isJson p.2 = true := by
  cases x with
  | dict oid kvs =>
    simp only [isJson] at h
    simp only [dictKvs]
    induction kvs with
    | nil => exact ⟨fun _ hp => (by cases hp), fun _ hp => (by cases hp)⟩
    | cons q qs ih =>
      obtain ⟨k, v⟩ := q
      simp only [isJsonO, Bool.and_eq_true] at h
      obtain ⟨⟨hk, hv⟩, hr⟩ := h
      obtain ⟨h1, h2⟩ := ih hr
      refine ⟨?_, ?_⟩
      · intro p hp
        rcases List.mem_cons.1 hp with rfl | hp
        · cases k <;> simp at hk; exact ⟨_, rfl⟩
        · exact h1 p hp
      · intro p hp
        rcases List.mem_cons.1 hp with rfl | hp
        · exact hv
        · exact h2 p hp
  | _ => exact ⟨fun _ hp => (by cases hp), fun _ hp => (by cases hp)⟩

theorem sizeOf_dictKvs {x : PyVal} {p : PyVal × PyVal} (h : p ∈ dictKvs x) : sizeOf p.2 < sizeOf x := by
  cases x with
  | dict oid kvs =>
    have := List.sizeOf_lt_of_mem (show p ∈ kvs from h)
    have h2 : sizeOf p = 1 + sizeOf p.1 + sizeOf p.2 := by cases p; simp
    simp only [PyVal.dict.sizeOf_spec]
    omega
  | _ => cases h

theorem node_scalar_validator (o : Oracle) (env : Nat → V) (vid : Nat) (tg : Ty) (ps : List Pred) (x : PyVal)
    (hok : x.ty = tg → ∀ p ∈ ps, predCheck p.k x = true) :
    VDecides o env (.scalar vid tg none [] ps []) x (decide (x.ty = tg) && ps.all (fun p => holds p.k x)) := by
  refine ⟨1, (scalarStep o .sync vid tg none [] ps [] x).1, (scalarStep o .sync vid tg none [] ps [] x).2, rfl, ?_⟩
  by_cases hty : x.ty = tg
  · obtain ⟨hc, hall⟩ := contPreds_noRaise ps x (fun p hp => predCheck_noRaise p.k x (hok hty p hp))
    simp only [scalarStep, gate, hty, if_true, runProcs, finishPreds]
    rw [hc, ← hall]
    cases (failing ps x).isEmpty <;> simp [Out.verdict]
  · simp [scalarStep, gate, hty, Out.verdict]

theorem node_none_validator (o : Oracle) (env : Nat → V) (nvid : Nat) (x : PyVal) :
    VDecides o env (.noneV nvid none) x (isNoneV x) := by
  refine ⟨1, (noneStep o nvid none x).1, (noneStep o nvid none x).2, rfl, ?_⟩
  cases x <;> simp [noneStep, Out.verdict, isNoneV]

theorem sameKind_of_ty (m x : PyVal) (t : String) (ht : typeName m.ty = some t) (h : x.ty = m.ty) : SameKind m x = true := by
  cases m <;> simp [PyVal.ty, typeName] at ht <;> cases x <;> simp [PyVal.ty] at h <;> simp [SameKind, isNum]

theorem node_equals_validator (o : Oracle) (env : Nat → V) (vid pid : Nat) (m x : PyVal) (t : String)
    (ht : typeName m.ty = some t) :
    VDecides o env (.equals vid m [] pid) x (decide (x.ty = m.ty) && holds (.equalTo m) x) := by
  refine ⟨1, (equalsStep vid m [] pid x).1, (equalsStep vid m [] pid x).2, rfl, ?_⟩
  by_cases hty : x.ty = m.ty
  · have hk := sameKind_of_ty m x t ht hty
    have hc : pyEqX x m = .ok (pyEq x m) := by
      simp [pyEqX, (isSNaN_sameKind m x hk).1, (isSNaN_sameKind m x hk).2]
    have hh : holds (.equalTo m) x = pyEq x m := holds_of_call _ _ _ (by simpa [PredK.call] using hc)
    simp only [equalsStep, hty, if_true, runProcs, hc, hh, decide_true, Bool.true_and]
    cases pyEq x m <;> simp [Out.verdict]
  · have hty' : ¬ m.ty = x.ty := fun h => hty h.symm
    simp [equalsStep, hty', hty, Out.verdict]

/-- `None` is accepted whatever the inner validator would do with it -/
theorem node_optional_validator (o : Oracle) (env : Nat → V) (vid nvid : Nat) (inner : V) (x : PyVal) (b : Bool)
    (h : isNoneV x = false → VDecides o env inner x b) :
    VDecides o env (.optional vid (.noneV nvid none) inner) x (isNoneV x || b) := by
  have hnone : ∀ N, run o env .sync (N + 1) (.noneV nvid none) x = some (noneStep o nvid none x) := fun _ => rfl
  cases hx : isNoneV x with
  | true =>
    obtain rfl : x = .none := by cases x <;> first | rfl | cases hx
    refine ⟨2, .valid .none, [], ?_, rfl⟩
    rw [C05_optional_run]
    simp [unionStep, unionLoop, hnone, noneStep]
  | false =>
    obtain ⟨N, hN⟩ := (h hx).at_fuel
    obtain ⟨out, t, hr, hv⟩ := hN (N + 1) (by omega)
    have hopt := C05_optional_run o env .sync (N + 1) vid (.noneV nvid none) inner x
    obtain ⟨e0, he0⟩ : ∃ e, noneStep o nvid none x = (.invalid e, []) := by
      cases x <;> first | exact ⟨_, rfl⟩ | cases hx
    cases out with
    | raised e => cases hv
    | valid w =>
      refine ⟨N + 2, .valid w, [] ++ t, ?_, hv⟩
      rw [hopt]
      simp [unionStep, unionLoop, hnone, he0, hr]
    | invalid e =>
      refine ⟨N + 2, .invalid (.mk .union x vid [e0, e]), [] ++ (t ++ []), ?_, hv⟩
      rw [hopt]
      simp [unionStep, unionLoop, hnone, he0, hr]

theorem node_knr_validator (o : Oracle) (env : Nat → V) (vid : Nat) (inner : V) (x : PyVal) (b : Bool)
    (h : VDecides o env inner x b) : VDecides o env (.knr vid inner) x b := by
  obtain ⟨n, h⟩ := h
  rcases Gives.cases h with ⟨w, t, hr, rfl⟩ | ⟨e, t, hr, rfl⟩
  · exact ⟨n + 1, .valid (.just 0 w), t, by simp [run, knrStep, hr], rfl⟩
  · exact ⟨n + 1, .invalid e, t, by simp [run, knrStep, hr], rfl⟩

theorem unionLoop_decided {α : Type} (x : PyVal) (f : α → Ev1) (a : α → Bool) : ∀ (l : List α),
    (∀ i ∈ l, Gives (f i) x (a i)) →
    ∃ w es t, UnionL x (l.map f) (w, es, t, none) ∧ w.isSome = l.any a
  | [], _ => ⟨none, [], [], .nil, rfl⟩
  | i :: l, h => by
    rcases (h i (List.mem_cons_self ..)).cases with ⟨w, t, hx, hv⟩ | ⟨e, t, hx, hv⟩
    · exact ⟨some w, [], t, .valid hx, by simp [hv]⟩
    · obtain ⟨w, es, t', hl, hw⟩ := unionLoop_decided x f a l (fun j hj => h j (List.mem_cons_of_mem _ hj))
      exact ⟨w, e :: es, t ++ t', .invalid hx hl, by simp [hw, hv]⟩

theorem unionStep_map {α : Type} (vid : Nat) (x : PyVal) (f : α → Ev1) (a : α → Bool) (l : List α)
    (h : ∀ i ∈ l, Gives (f i) x (a i)) : Gives (unionStep vid (l.map f)) x (l.any a) := by
  obtain ⟨w, es, t, hl, hw⟩ := unionLoop_decided x f a l h
  rw [← hw]
  exact ⟨_, _, unionStep_some.2 ⟨_, hl, rfl⟩, by cases w <;> rfl⟩

theorem unionStep_decided (vid : Nat) (x : PyVal) (a : Ev1 → Bool) (evs : List Ev1)
    (h : ∀ ev ∈ evs, ∃ out t, ev x = some (out, t) ∧ out.verdict = some (a ev)) :
    ∃ out t, unionStep vid evs x = some (out, t) ∧ out.verdict = some (evs.any a) := by
  have := unionStep_map vid x id a evs h
  rwa [List.map_id] at this

theorem union_decided {α : Type} (o : Oracle) (env : Nat → V) (vid : Nat) (x : PyVal) (v : α → V) (b : α → Bool)
    (l : List α) (h : ∀ i ∈ l, VDecides o env (v i) x (b i)) : VDecides o env (.union vid (l.map v)) x (l.any b) := by
  obtain ⟨N, hN⟩ := shared_fuel o env (fun i => (v i, x)) b l h
  have := unionStep_map vid x (run o env .sync N ∘ v) b l (hN N (Nat.le_refl N))
  rw [← List.map_map] at this
  exact ⟨N + 1, this⟩

theorem node_union_validator (o : Oracle) (env : Nat → V) (vid : Nat) (vs : List V) (x : PyVal) (a : V → Bool)
    (h : ∀ v ∈ vs, VDecides o env v x (a v)) : VDecides o env (.union vid vs) x (vs.any a) := by
  have := union_decided o env vid x id a vs h
  rwa [List.map_id] at this

theorem loopItems_decided (ev : Ev1) (a : PyVal → Bool) : ∀ (xs : List PyVal) (i : Nat) (ne : Bool),
    (∀ y ∈ xs, Gives ev y (a y)) →
    ∃ r, Items ev false xs i ne r ∧ r.r = none ∧ r.es.isEmpty = xs.all a
  | [], i, ne, _ => ⟨_, .nil i ne, rfl, rfl⟩
  | x :: xs, i, ne, h => by
    have ih := fun ne' => loopItems_decided ev a xs (i + 1) ne' (fun y hy => h y (List.mem_cons_of_mem _ hy))
    rcases Gives.cases (h x (List.mem_cons_self ..)) with ⟨w, t, hx, hv⟩ | ⟨e, t, hx, hv⟩
    · obtain ⟨r, hr, h1, h2⟩ := ih ne
      exact ⟨_, .valid hx (by simp) hr, h1, by simp [h2, hv]⟩
    · obtain ⟨r, hr, h1, _⟩ := ih false
      exact ⟨_, .invalid hx hr, h1, by simp [hv]⟩

/-- a list or uniform tuple step: if the gate lets `x` through (`ok`) as some `y` with items `xs`, the verdict is that
    of the items and of the container-level predicates on `y` (`pv`); if the gate rejects `x`, so does the step -/
theorem seq_decided (k : SeqKind) (hk : k ≠ .set) (o : Oracle) (env : Nat → V) (vid : Nat) (item : V) (ps : List Pred)
    (c : Option CoerceK) (x : PyVal) (ok pv : Bool) (xs : List PyVal) (a : PyVal → Bool)
    (hacc : ok = true → ∃ y, gate o k.gateTy k.destTy c x = .acc y [] ∧ pyIter y = some xs ∧ NoRaise ps y ∧
      ps.all (fun p => holds p.k y) = pv)
    (hrej : ok = false → ∃ ek, gate o k.gateTy k.destTy c x = .rej ek [])
    (hitems : ∀ z ∈ xs, VDecides o env item z (a z)) :
    ∃ n, Gives (seqStep k o .sync vid ps [] c (run o env .sync n item)) x (ok && (xs.all a && pv)) := by
  cases ok with
  | false =>
    obtain ⟨ek, hg⟩ := hrej rfl
    exact ⟨0, .invalid (.mk ek x vid []), [], by simp [seqStep, seqPre, hg], rfl⟩
  | true =>
    obtain ⟨y, hg, hit, hnr, rfl⟩ := hacc rfl
    obtain ⟨hc, hall⟩ := contPreds_noRaise ps y hnr
    rw [← hall, Bool.true_and]
    cases hf : (failing ps y).isEmpty with
    | true =>
      obtain ⟨N, hN⟩ := shared_fuel o env (fun z => (item, z)) a xs hitems
      obtain ⟨r, hr, hrn, hre⟩ := loopItems_decided (run o env .sync N item) a xs 0 true (hN N (Nat.le_refl N))
      have hpre : seqPre k o .sync vid ps [] c x = .inr (y, xs, [] ++ (contPreds .sync ps [] y).2.1) := by
        rw [C03_pre_iff]
        exact ⟨by simp, [], _, hg, by rw [hc, List.isEmpty_iff.1 hf], hit, rfl⟩
      have hks : (k == .set) = false := by cases k <;> first | rfl | exact absurd rfl hk
      refine ⟨N, _, _, seqStep_some.2 (.inr ⟨_, _, _, _, hpre, hks ▸ hr, rfl⟩), ?_⟩
      rw [← hre]
      cases he : r.es.isEmpty <;> cases k <;> simp [finishSeq, hrn, he, Out.verdict] at hk ⊢
    | false =>
      refine ⟨0, .invalid (.mk (.preds (failing ps y)) y vid []), [] ++ (contPreds .sync ps [] y).2.1, ?_, by simp [Out.verdict]⟩
      simp only [seqStep, seqPre, hg]
      rw [hc]
      simp [hf]

theorem node_list_validator (o : Oracle) (env : Nat → V) (vid : Nat) (item : V) (ps : List Pred) (x : PyVal)
    (a : PyVal → Bool)
    (hok : isListV x = true → ∀ p ∈ ps, predCheck p.k x = true)
    (hitems : ∀ y ∈ listItems x, VDecides o env item y (a y)) :
    VDecides o env (.list vid item ps [] none) x
      (isListV x && ((listItems x).all a && ps.all (fun p => holds p.k x))) := by
  obtain ⟨n, h⟩ := seq_decided .list (by decide) o env vid item ps none x (isListV x)
    (ps.all fun p => holds p.k x) (listItems x) a
    (fun hl => by
      obtain ⟨oid, xs, rfl⟩ := isListV_eq hl
      exact ⟨_, by simp [gate, SeqKind.gateTy, PyVal.ty], rfl, fun p hp => predCheck_noRaise p.k _ (hok hl p hp), rfl⟩)
    (fun hl => ⟨.type .list, by
      have hty : ¬ x.ty = .list := fun h => by rw [(isListV_ty x).1 h] at hl; cases hl
      simp [gate, SeqKind.gateTy, hty]⟩)
    hitems
  exact ⟨n + 1, h⟩

theorem holds_tuple_list (p : PredK) (oid : Nat) (xs : List PyVal) (h : predCheck p (.list oid xs) = true) :
    holds p (.tuple 0 xs) = holds p (.list oid xs) ∧ ∃ b, p.call (.tuple 0 xs) = .ok b := by
  cases p with
  | minItems n => exact ⟨rfl, _, rfl⟩
  | maxItems n => exact ⟨rfl, _, rfl⟩
  | uniqueItems =>
    have hs : snanInsideL xs = false := by simp [predCheck] at h; exact h.2
    exact ⟨by simp [holds, PredK.call, pyIter, hs], uniqueLoop xs [] [], by simp [PredK.call, pyIter, hs]⟩
  | equalTo v => cases v <;> simp [predCheck, SameKind, isNum] at h
  | choices vs => simp [predCheck, hashable] at h
  | min m e => simp [predCheck, isNum] at h
  | max m e => simp [predCheck, isNum] at h
  | startsWith q => cases q <;> simp [predCheck] at h
  | endsWith q => cases q <;> simp [predCheck] at h
  | _ => simp [predCheck] at h

theorem gate_tuple_dflt_json (o : Oracle) {x : PyVal} (hj : isJson x = true) :
    (isListV x = true → gate o .tuple .list (some .dflt) x = .acc (.tuple 0 (listItems x)) []) ∧
    (isListV x = false → gate o .tuple .list (some .dflt) x = .rej (.coercion (defaultCompat .tuple) .list) []) := by
  cases x <;> simp [isListV, isJson, listItems, gate, applyCoerce, defaultCoerce] at hj ⊢

theorem node_utuple_validator (o : Oracle) (env : Nat → V) (vid : Nat) (item : V) (ps : List Pred) (x : PyVal)
    (a : PyVal → Bool) (hjson : isJson x = true)
    (hok : isListV x = true → ∀ p ∈ ps, predCheck p.k x = true)
    (hitems : ∀ y ∈ listItems x, VDecides o env item y (a y)) :
    VDecides o env (.utuple vid item ps [] (some .dflt)) x
      (isListV x && ((listItems x).all a && ps.all (fun p => holds p.k x))) := by
  obtain ⟨n, h⟩ := seq_decided .utuple (by decide) o env vid item ps (some .dflt) x (isListV x)
    (ps.all fun p => holds p.k x) (listItems x) a
    (fun hl => by
      obtain ⟨oid, xs, rfl⟩ := isListV_eq hl
      -- the predicates see the tuple the list was coerced to
      exact ⟨.tuple 0 xs, (gate_tuple_dflt_json o hjson).1 hl, rfl,
        fun p hp => (holds_tuple_list p.k oid xs (hok hl p hp)).2,
        all_congr_mem _ _ ps (fun p hp => (holds_tuple_list p.k oid xs (hok hl p hp)).1)⟩)
    (fun hl => ⟨_, (gate_tuple_dflt_json o hjson).2 hl⟩)
    hitems
  exact ⟨n + 1, h⟩

def SlotsDecide (o : Oracle) (env : Nat → V) : List (V × (PyVal → Bool)) → List PyVal → Prop
  | (v, a) :: sl, y :: ys => VDecides o env v y (a y) ∧ SlotsDecide o env sl ys
  | _, _ => True

def allSlots : List (V × (PyVal → Bool)) → List PyVal → Bool
  | (_, a) :: sl, y :: ys => a y && allSlots sl ys
  | _, _ => true

theorem slots_decided (o : Oracle) (env : Nat → V) : ∀ (sl : List (V × (PyVal → Bool))) (ys : List PyVal),
    SlotsDecide o env sl ys →
    ∃ N, ∀ n, N ≤ n → ∀ i, ∃ r, Fields (sl.map (fun p => run o env .sync n p.1)) ys i r ∧ r.r = none ∧
      r.es.isEmpty = allSlots sl ys
  | [], _, _ => ⟨0, fun _ _ i => ⟨_, .done i (.inl rfl), rfl, rfl⟩⟩
  | _ :: _, [], _ => ⟨0, fun _ _ i => ⟨_, .done i (.inr rfl), rfl, rfl⟩⟩
  | (v, a) :: sl, y :: ys, ⟨hv, hrest⟩ => by
    obtain ⟨N1, h1⟩ := slots_decided o env sl ys hrest
    obtain ⟨N2, h2⟩ := hv.at_fuel
    refine ⟨max N1 N2, fun n hn i => ?_⟩
    obtain ⟨r, hl, hrn, hre⟩ := h1 n (by omega) (i + 1)
    rcases Gives.cases (h2 n (by omega)) with ⟨w, t, hr, hay⟩ | ⟨e, t, hr, hay⟩
    · exact ⟨_, .valid hr hl, hrn, by rw [allSlots, hay, ← hre]; rfl⟩
    · exact ⟨_, .invalid hr hl, hrn, by rw [allSlots, hay]; rfl⟩

theorem slotsDecide_of_zip (o : Oracle) (env : Nat → V) (a : V → PyVal → Bool) : ∀ (fs : List V) (ys : List PyVal),
    (∀ p ∈ fs.zip ys, VDecides o env p.1 p.2 (a p.1 p.2)) → SlotsDecide o env (fs.map fun v => (v, a v)) ys
  | [], _, _ => trivial
  | _ :: _, [], _ => trivial
  | v :: vs, y :: ys, h =>
    ⟨h (v, y) (List.mem_cons_self ..), slotsDecide_of_zip o env a vs ys fun p hp => h p (List.mem_cons_of_mem _ hp)⟩

theorem node_ntuple_validator (o : Oracle) (c : Option CoerceK) (env : Nat → V) (vid lp : Nat)
    (sl : List (V × (PyVal → Bool))) (x : PyVal) (ok : Bool) (items : List PyVal)
    (hacc : ok = true → ∃ oid, gate o .tuple .list c x = .acc (.tuple oid items) [])
    (hrej : ok = false → ∃ k, gate o .tuple .list c x = .rej k [])
    (hkids : SlotsDecide o env sl items) :
    VDecides o env (.ntuple vid (sl.map Prod.fst) none c lp) x
      (ok && (decide (items.length = sl.length) && allSlots sl items)) := by
  cases ok with
  | false =>
    obtain ⟨k, hk⟩ := hrej rfl
    exact ⟨1, _, _, ntupleStep_some.2 (.inl (ntuplePre_eq_iff.2 (.rej hk))), rfl⟩
  | true =>
    obtain ⟨oid, hgx⟩ := hacc rfl
    by_cases hlen : items.length = sl.length
    · obtain ⟨N, hN⟩ := slots_decided o env sl items hkids
      obtain ⟨r, hr, hrn, hre⟩ := hN N (Nat.le_refl N) 0
      have hmap : (sl.map Prod.fst).map (run o env .sync N) = sl.map (fun p => run o env .sync N p.1) := by
        simp [List.map_map, Function.comp_def]
      refine ⟨N + 1, _, _, ntupleStep_some.2 (.inr ⟨_, _, _, _,
        ntuplePre_eq_iff.2 (.pass hgx (by simp [pyLen, hlen]) rfl), hmap ▸ hr, rfl⟩), ?_⟩
      simp only [hrn, Bool.true_and, hlen, decide_true]
      rw [← hre]
      cases r.es.isEmpty <;> simp [Out.verdict, runObjCheck]
    · exact ⟨1, _, _, ntupleStep_some.2 (.inl (ntuplePre_eq_iff.2 (.arity hgx rfl (by simpa using hlen)))),
        by simp [Out.verdict, hlen]⟩

theorem recGate_dict (o : Oracle) (cfg : RecCfg) (hc : cfg.coerce = none) (oid : Nat) (kvs : List (PyVal × PyVal)) :
    recGate o cfg (.dict oid kvs) = .acc (.dict oid kvs) [] := by
  unfold recGate
  cases cfg.kind <;> simp [hc, PyVal.ty, PyVal.baseTy]

theorem recGate_nondict (o : Oracle) (cfg : RecCfg) (hc : cfg.coerce = none) (x : PyVal) (hj : isJson x = true)
    (hd : isDictV x = false) : ∃ k, recGate o cfg x = .rej k [] := by
  unfold recGate
  cases x <;> simp [isDictV, isJson] at hd hj <;> cases cfg.kind <;> simp [hc, PyVal.ty, PyVal.baseTy]

theorem common_fuel_fields (o : Oracle) (env : Nat → V) (kvs : List (PyVal × PyVal)) (a : V → PyVal → Bool)
    (ks : List PyVal) (vs : List V)
    (h : ∀ p ∈ ks.zip vs, ∀ xv, dictGet kvs p.1 = some xv → VDecides o env p.2 xv (a p.2 xv)) :
    ∃ N, ∀ p ∈ ks.zip vs, ∀ xv, dictGet kvs p.1 = some xv → Gives (run o env .sync N p.2) xv (a p.2 xv) := by
  have hm : ∀ q : (PyVal × V) × PyVal, q ∈ (ks.zip vs).filterMap (fun p => (dictGet kvs p.1).map (p, ·)) ↔
      q.1 ∈ ks.zip vs ∧ dictGet kvs q.1.1 = some q.2 := by
    intro q
    simp only [List.mem_filterMap, Option.map_eq_some_iff]
    exact ⟨fun ⟨p, hp, xv, hg, hq⟩ => hq ▸ ⟨hp, hg⟩, fun ⟨hp, hg⟩ => ⟨q.1, hp, q.2, hg, rfl⟩⟩
  obtain ⟨N, hN⟩ := shared_fuel o env (fun q : (PyVal × V) × PyVal => (q.1.2, q.2)) (fun q => a q.1.2 q.2) _
    (fun q hq => h q.1 ((hm q).1 hq).1 q.2 ((hm q).1 hq).2)
  exact ⟨N, fun p hp xv hg => hN N (Nat.le_refl N) (p, xv) ((hm (p, xv)).2 ⟨hp, hg⟩)⟩

theorem recLoop_decided (o : Oracle) (env : Nat → V) (N vid : Nat) (dv : PyVal) (kvs : List (PyVal × PyVal))
    (a : V → PyVal → Bool) :
    ∀ (ks : List PyVal) (rs : List Bool) (vs : List V),
      (∀ p ∈ ks.zip vs, ∀ xv, dictGet kvs p.1 = some xv → Gives (run o env .sync N p.2) xv (a p.2 xv)) →
      ∃ r, RecL vid dv kvs (vs.map (run o env .sync N)) ks rs r ∧ r.r = none ∧
        r.ks.isEmpty = (ks.zip (rs.zip vs)).all (fun q => (dictGet kvs q.1).elim (!q.2.1) (a q.2.2))
  | [], rs, vs, _ => ⟨_, .done (.inr (.inl rfl)), rfl, rfl⟩
  | k :: ks, [], vs, _ => ⟨_, .done (.inr (.inr rfl)), rfl, rfl⟩
  | k :: ks, r :: rs, [], _ => ⟨_, .done (.inl rfl), rfl, rfl⟩
  | k :: ks, r :: rs, v :: vs, h => by
    obtain ⟨r', hr', h1, h2⟩ := recLoop_decided o env N vid dv kvs a ks rs vs (fun p hp => h p (List.mem_cons_of_mem _ hp))
    cases hg : dictGet kvs k with
    | none =>
      cases r with
      | true => exact ⟨_, .missing hg hr', h1, by simp [hg]⟩
      | false => exact ⟨_, .absent hg hr', h1, by simp [hg, h2]⟩
    | some xv =>
      rcases (h (k, v) (List.mem_cons_self ..) xv hg).cases with ⟨w, t, hx, hv⟩ | ⟨e, t, hx, hv⟩
      · exact ⟨_, .valid hg hx hr', h1, by simp [hg, h2, hv]⟩
      · exact ⟨_, .invalid hg hx hr', h1, by simp [hg, hv]⟩

theorem all_known_eq (kvs : List (PyVal × PyVal)) (keys : List PyVal) (fu : Bool) :
    kvs.all (fun p => memL p.1 keys || !fu) = !(fu && hasUnknownKey keys kvs) := by
  cases fu
  · simp
  · simp only [Bool.not_true, Bool.or_false, Bool.true_and, hasUnknownKey]
    induction kvs with
    | nil => rfl
    | cons p ps ih => simp [ih, Bool.not_or]

theorem node_record_validator (o : Oracle) (env : Nat → V) (vid : Nat) (cfg : RecCfg) (vs : List V) (x : PyVal)
    (a : V → PyVal → Bool)
    (hj : isJson x = true) (hoc : cfg.oc = none) (haoc : cfg.aoc = none) (hco : cfg.coerce = none)
    (hkids : ∀ p ∈ cfg.keys.zip vs, ∀ xv, dictGet (dictKvs x) p.1 = some xv → VDecides o env p.2 xv (a p.2 xv)) :
    VDecides o env (.record vid cfg vs) x
      (isDictV x && ((dictKvs x).all (fun p => memL p.1 cfg.keys || !cfg.failUnknown) &&
        (cfg.keys.zip (cfg.reqs.zip vs)).all
          (fun q => (dictGet (dictKvs x) q.1).elim (!q.2.1) (a q.2.2)))) := by
  have hng : ¬ (Mode.sync = .sync ∧ cfg.aoc.isSome = true) := by simp [haoc]
  by_cases hd : isDictV x = true
  · obtain ⟨oid, kvs, rfl⟩ := isDictV_eq hd
    simp only [dictKvs] at hkids ⊢
    simp only [isDictV, Bool.true_and, all_known_eq]
    by_cases hu : (cfg.failUnknown && hasUnknownKey cfg.keys kvs) = true
    · exact ⟨1, _, _, recordStep_some.2 (.inl (recPre_eq_iff.2 (.unknown hng (recGate_dict o cfg hco oid kvs) rfl hu))),
        by simp [Out.verdict, hu]⟩
    · have hu' : (cfg.failUnknown && hasUnknownKey cfg.keys kvs) = false := by simpa using hu
      obtain ⟨N, hN⟩ := common_fuel_fields o env kvs a cfg.keys vs hkids
      obtain ⟨r, hr, hrn, hre⟩ := recLoop_decided o env N vid (.dict oid kvs) kvs a cfg.keys cfg.reqs vs hN
      refine ⟨N + 1, _, _, recordStep_some.2 (.inr ⟨_, _, _, _,
        recPre_eq_iff.2 (.pass hng (recGate_dict o cfg hco oid kvs) rfl hu), hr, rfl⟩), ?_⟩
      simp only [hrn, hu', Bool.not_false, Bool.true_and]
      rw [← hre]
      cases r.ks.isEmpty <;> simp [Out.verdict, runObjCheck, runAObjCheck, hoc]
  · have hd' : isDictV x = false := by simpa using hd
    obtain ⟨k, hk⟩ := recGate_nondict o cfg hco x hj hd'
    exact ⟨1, _, _, recordStep_some.2 (.inl (recPre_eq_iff.2 (.rej hng hk))), by simp [Out.verdict, hd']⟩

theorem plainStr_run (o : Oracle) (env : Nat → V) (kv : V) (hk : isPlainStrV kv = true) (N : Nat) (s : List Nat) :
    run o env .sync (N + 1) kv (.str s) = some (.valid (.str s), []) := by
  unfold isPlainStrV at hk
  split at hk
  · simp [run, scalarStep, gate, PyVal.ty, runProcs, finishPreds, contPreds, runPreds]
  · cases hk

theorem mapLoop_decided (evk evv : Ev1) (a : PyVal → Bool) :
    ∀ (kvs acc0 : List (PyVal × PyVal)),
      (∀ p ∈ kvs, ∃ s, p.1 = .str s ∧ evk p.1 = some (.valid (.str s), [])) →
      (∀ p ∈ kvs, Gives evv p.2 (a p.2)) →
      ∃ r, MapL evk evv kvs acc0 r ∧ r.r = none ∧ r.ks.isEmpty = kvs.all (fun p => a p.2)
  | [], acc0, _, _ => ⟨_, .nil acc0, rfl, rfl⟩
  | (k, v) :: rest, acc0, hk, hv => by
    obtain ⟨s, rfl, hke⟩ := hk (k, v) (List.mem_cons_self ..)
    have ih := fun acc1 => mapLoop_decided evk evv a rest acc1
      (fun p hp => hk p (List.mem_cons_of_mem _ hp)) (fun p hp => hv p (List.mem_cons_of_mem _ hp))
    rcases (hv (_, v) (List.mem_cons_self ..)).cases with ⟨w, t, hve, hvv⟩ | ⟨e, t, hve, hvv⟩
    · obtain ⟨r, hr, h1, h2⟩ := ih (dictSet acc0 (.str s) w)
      exact ⟨_, .stored hke hve rfl hr, h1, by simp [h2, hvv]⟩
    · obtain ⟨r, hr, h1, _⟩ := ih acc0
      exact ⟨_, .valFailed hke hve hr, h1, by simp [hvv]⟩

theorem node_map_validator (o : Oracle) (env : Nat → V) (vid : Nat) (kv vv : V) (ps : List Pred) (x : PyVal)
    (a : PyVal → Bool) (hkv : isPlainStrV kv = true)
    (hkeys : ∀ p ∈ dictKvs x, ∃ s, p.1 = .str s)
    (hok : isDictV x = true → ∀ p ∈ ps, predCheck p.k x = true)
    (hvals : ∀ p ∈ dictKvs x, VDecides o env vv p.2 (a p.2)) :
    VDecides o env (.map vid kv vv ps [] none) x
      (isDictV x && ((dictKvs x).all (fun p => a p.2) && ps.all (fun p => holds p.k x))) := by
  have hg' : ¬ (Mode.sync = .sync ∧ ([] : List Pred) ≠ []) := by simp
  by_cases hd : isDictV x = true
  · obtain ⟨oid, kvs, rfl⟩ := isDictV_eq hd
    simp only [dictKvs] at hkeys hvals
    obtain ⟨hc, hall⟩ := contPreds_noRaise ps (.dict oid kvs) (fun p hp => predCheck_noRaise p.k _ (hok hd p hp))
    have hgd : gate o .dict .dict none (.dict oid kvs) = .acc (.dict oid kvs) [] := by simp [gate, PyVal.ty]
    simp only [isDictV, dictKvs, Bool.true_and, ← hall]
    cases hf : (failing ps (.dict oid kvs)).isEmpty with
    | true =>
      obtain ⟨N, hN⟩ := shared_fuel o env (fun p : PyVal × PyVal => (vv, p.2)) (fun p => a p.2) kvs hvals
      obtain ⟨r, hr, hrn, hre⟩ := mapLoop_decided (run o env .sync (N + 1) kv) (run o env .sync (N + 1) vv) a kvs []
        (fun p hp => by
          obtain ⟨s, hs⟩ := hkeys p hp
          exact ⟨s, hs, by rw [hs]; exact plainStr_run o env kv hkv N s⟩)
        (hN (N + 1) (by omega))
      refine ⟨N + 2, _, _, mapStep_some.2 (.inr ⟨_, _, _, _,
        mapPre_eq_iff.2 (.pass hg' hgd (by rw [hc, List.isEmpty_iff.1 hf]) rfl), hr, rfl⟩), ?_⟩
      rw [← hre]
      cases r.ks.isEmpty <;> simp [hrn, Out.verdict]
    | false =>
      obtain ⟨b, f, hbf⟩ := List.exists_cons_of_ne_nil (l := failing ps (.dict oid kvs)) (fun h => by rw [h] at hf; cases hf)
      exact ⟨1, _, _, mapStep_some.2 (.inl (mapPre_eq_iff.2 (.predFail hg' hgd (by rw [hc, hbf])))),
        by simp [Out.verdict]⟩
  · have hd' : isDictV x = false := by simpa using hd
    have hty : ¬ x.ty = .dict := fun h => hd ((isDictV_ty x).1 h)
    exact ⟨1, _, _, mapStep_some.2 (.inl (mapPre_eq_iff.2 (.rej (ek := .type .dict) (t := []) hg' (by simp [gate, hty])))),
      by simp [Out.verdict, hd']⟩

/-- **maps (schema side)**: `{"type": "object", "additionalProperties": vs, …}` -/
theorem C11_map_schema (pr : Printer) (root : J) (ref : Option (List Nat)) (vs : J) (ps : List Pred) (ob : JObj)
    (hps : predsSchema pr [(kw "type", .str (kw "object")), (kw "additionalProperties", vs)] ps = .ok ob) (x : PyVal)
    (a : PyVal → Bool) (N : Nat)
    (hkeys : ∀ p ∈ dictKvs x, ∃ s, p.1 = .str s)
    (hvals : ∀ p ∈ dictKvs x, DecidesAt root ref vs N p.2 (a p.2))
    (hp : isDictV x = true → ∀ p ∈ ps, PredOK pr root ref p.k x) :
    DecidesAt root ref (.obj ob) (max N 1 + 1) x
      (isDictV x && ((dictKvs x).all (fun p => a p.2) && ps.all (fun p => holds p.k x))) := by
  refine C11_typed_schema pr root ref _ (kw "object") ps ob hps x _ _ (max N 1) (Nat.le_max_right N 1)
    (typeOk_object x) (fun hd n hn o' hg => ?_) hp
  obtain ⟨oid, kvs, rfl⟩ := isDictV_eq hd
  simp only [objEval, allM, evalKw_type, typeOk_object, evalKw_additionalProperties, propNames_good o' hg, isDictV, dictKvs]
  rw [allM_eq_some_all _ (fun p => a p.2) kvs fun p hp => ?_]
  · simp only [OB_and_some, Bool.true_and, Bool.and_true]
  · obtain ⟨s, hs⟩ := hkeys p hp
    simp only [hs, keyText, List.contains_nil, Bool.false_eq_true, if_false]
    exact hvals p hp n (Nat.le_trans (Nat.le_max_left N 1) hn)

theorem toSchemaL_spec (pr : Printer) (ctx : RefCtx) (tvs nrs : List Nat) : ∀ (vs : List V) (js : List J),
    toSchemaL pr ctx tvs nrs vs = .ok js → AllZip (fun v j => toSchema pr ctx tvs nrs v = .ok j) vs js
  | [], js, h => by simp only [toSchemaL, Except.ok.injEq] at h; subst h; exact AllZip.nil
  | v :: vs, js, h => by
    simp only [toSchemaL] at h
    cases h1 : toSchema pr ctx tvs nrs v with
    | error e => simp [h1, bind, Except.bind] at h
    | ok j =>
      cases h2 : toSchemaL pr ctx tvs nrs vs with
      | error e => simp [h1, h2, bind, Except.bind] at h
      | ok js' =>
        simp only [h1, h2, bind, Except.bind, Except.ok.injEq] at h
        subst h
        exact AllZip.cons h1 (toSchemaL_spec pr ctx tvs nrs vs js' h2)

theorem jaddPred_noclash (base po : JObj) (h : ∀ p ∈ po, hasKey base p.1 = false) :
    jaddPred base po = jupdate base po := by
  unfold jaddPred
  have : po.any (fun p => base.any (fun q => q.1 == p.1)) = false := by
    rw [List.any_eq_false]
    intro p hp
    have := h p hp
    simp only [hasKey] at this
    simp [this]
  simp only [this, Bool.false_eq_true, if_false]

theorem keyTexts_spec : ∀ (ks : List PyVal) (ts : List (List Nat)), keyTexts ks = some ts → ks = ts.map PyVal.str
  | [], ts, h => by cases h; rfl
  | k :: ks, ts, h => by
    cases k with
    | str s =>
      simp only [keyTexts, Option.map_eq_some_iff] at h
      obtain ⟨ts', h1, rfl⟩ := h
      rw [List.map_cons, keyTexts_spec ks ts' h1]
    | _ => cases h

theorem labelsText_strs (pr : Printer) : ∀ (ts : List (List Nat)), labelsText pr (ts.map PyVal.str) = some ts
  | [] => rfl
  | t :: ts => by simp [labelsText, labelText, labelsText_strs pr ts]

theorem hasKey_zip (ts : List (List Nat)) (js : List J) (t : List Nat) (h : ts.contains t = false) :
    hasKey (ts.zip js) t = false := by
  induction ts generalizing js with
  | nil => rfl
  | cons a as ih =>
    cases js with
    | nil => rfl
    | cons j js =>
      simp only [List.contains_cons, Bool.or_eq_false_iff] at h
      simp only [List.zip_cons_cons, hasKey, List.any_cons, Bool.or_eq_false_iff]
      refine ⟨?_, ih js h.2⟩
      have := h.1
      simpa [Bool.beq_comm] using this

theorem foldl_jset_nodup : ∀ (ts : List (List Nat)) (js : List J) (acc0 : JObj), textsNodup ts = true →
    (∀ t ∈ ts, hasKey acc0 t = false) →
    (ts.zip js).foldl (fun acc p => jset acc p.1 p.2) acc0 = acc0 ++ ts.zip js
  | [], _, acc0, _, _ => by simp
  | _ :: _, [], acc0, _, _ => by simp
  | t :: ts, j :: js, acc0, hn, hd => by
    simp only [textsNodup, Bool.and_eq_true, Bool.not_eq_true'] at hn
    simp only [List.zip_cons_cons, List.foldl_cons]
    rw [jset_absent acc0 t j (hd t (by simp))]
    rw [foldl_jset_nodup ts js (acc0 ++ [(t, j)]) hn.2 (by
      intro t' ht'
      rw [hasKey_append, hd t' (by simp [ht'])]
      simp only [hasKey, List.any_cons, List.any_nil, Bool.or_false, Bool.false_or]
      apply Bool.eq_false_iff.2
      intro hh
      have : t = t' := by simpa using hh
      subst this
      exact absurd ht' (by simpa using hn.1))]
    simp

theorem insertText_all (f : List Nat → Bool) (x : List Nat) : ∀ (l : List (List Nat)),
    (insertText x l).all f = (f x && l.all f)
  | [] => by simp [insertText]
  | y :: ys => by
    simp only [insertText]
    split
    · simp
    · simp only [List.all_cons, insertText_all f x ys]
      cases f x <;> cases f y <;> simp

theorem sortTexts_all (f : List Nat → Bool) : ∀ (l : List (List Nat)), (sortTexts l).all f = l.all f
  | [] => rfl
  | x :: xs => by
    have := sortTexts_all f xs
    simp only [sortTexts, List.foldr_cons] at this ⊢
    rw [insertText_all, this]
    simp

/-- TypedDict schemas list the required keys sorted: the same keys -/
theorem all_sortTexts_ite (c : Prop) [Decidable c] (f : List Nat → Bool) (l : List (List Nat)) :
    (if c then sortTexts l else l).all f = l.all f := by
  split
  · exact sortTexts_all f l
  · rfl

theorem dictHas_get (kvs : List (PyVal × PyVal)) (k : PyVal) : dictHas kvs k = (dictGet kvs k).isSome := by
  induction kvs with
  | nil => rfl
  | cons p ps ih =>
    obtain ⟨k', v'⟩ := p
    simp only [dictHas, List.any_cons, dictGet] at ih ⊢
    by_cases h : pyEq k' k = true
    · simp [h]
    · have h' : pyEq k' k = false := by simpa using h
      simp [h', ih]

theorem memL_strs (nm : List Nat) : ∀ (ts : List (List Nat)), memL (.str nm) (ts.map PyVal.str) = ts.contains nm
  | [] => rfl
  | t :: ts => by
    have := memL_strs nm ts
    simp only [memL, List.map_cons, List.any_cons, List.contains_cons] at this ⊢
    rw [this]
    simp [pyEq, PyVal.unsub, Bool.beq_comm]

end Koda
