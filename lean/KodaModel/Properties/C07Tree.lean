/-
  C07 for whole annotations (strict resolver): for every annotation built from the scalar types,
  arbitrary classes, `Any`, `None`, `List[…]` and `Union[…]` / `Optional[…]` — nested at will — and
  **every** Python value `x`, the validator derived by the signature resolver terminates on `x` and
  accepts it iff `x` is of the annotated type under the exact-type reading (`hasType`).
  These forms are among those of `annFrag2`, so the statements here are instances of those in C07Tree2.
-/
import KodaModel.Properties.C07Tree2

namespace Koda

mutual
/-- the annotations `C07_strict_tree_partial` covers -/
def annFrag : Ann → Bool
  | .str | .int | .float | .bool | .bytes | .uuid | .date | .datetime | .decimal | .cls _ => true
  | .any | .none => true
  | .list a => annFrag a
  | .union as => annFragL as
  | _ => false
termination_by structural a => a
def annFragL : List Ann → Bool
  | [] => true
  | a :: as => annFrag a && annFragL as
termination_by structural as => as
end

mutual
theorem annFrag2_of_annFrag : ∀ (a : Ann), annFrag a = true → annFrag2 a = true
  | .str, _ | .int, _ | .float, _ | .bool, _ | .bytes, _ | .uuid, _ | .date, _ | .datetime, _ | .decimal, _
  | .cls _, _ | .any, _ | .none, _ => rfl
  | .list a, h => annFrag2_of_annFrag a h
  | .union as, h => annFrag2L_of_annFragL as h
  | .listBare, h | .setBare, h | .tupleBare, h | .dictBare, h | .set _, h | .dict _ _, h | .maybe _, h
  | .tupleVar _, h | .tupleFixed _, h | .literal _, h | .annotated _ _, h | .dataclass _ _ _ _, h
  | .namedtuple _ _ _ _, h | .typeddict _ _ _ _, h | .marked _, h => Bool.noConfusion h
termination_by structural a => a
theorem annFrag2L_of_annFragL : ∀ (as : List Ann), annFragL as = true → annFrag2L as = true
  | [], _ => rfl
  | a :: as, h => by
    simp only [annFragL, Bool.and_eq_true] at h
    simp only [annFrag2L, Bool.and_eq_true]
    exact ⟨annFrag2_of_annFrag a h.1, annFrag2L_of_annFragL as h.2⟩
termination_by structural as => as
end

/-- **C07, strict resolver, whole annotations (partial: the forms of `annFrag`)** -/
theorem C07_strict_tree_partial (o : Oracle) (env : Nat → V) :
    ∀ (a : Ann), annFrag a = true → ∀ (s : Nat) (x : PyVal),
      VDecides o env (derive .signature a s).1 x (hasType a x) :=
  fun a hf => C07_strict_tree2_partial o env a (annFrag2_of_annFrag a hf)

theorem C07_strict_tree_partialL (o : Oracle) (env : Nat → V) :
    ∀ (as : List Ann), annFragL as = true → ∀ (s : Nat) (x : PyVal),
      VariantsDecide o env x (deriveL .signature as s).1 as :=
  fun as hf => C07_strict_tree2_partialL o env as (annFrag2L_of_annFragL as hf)

theorem C07_strict_iff_partial (o : Oracle) (env : Nat → V) (a : Ann) (hf : annFrag a = true) (s : Nat) (x : PyVal) :
    (∃ n w t, run o env .sync n (derive .signature a s).1 x = some (.valid w, t)) ↔ hasType a x = true :=
  C07_strict_iff2_partial o env a (annFrag2_of_annFrag a hf) s x

/-- non-vacuity: `List[Union[int, None]]` (= `List[Optional[int]]`) -/
example : annFrag (.list (.union [.int, .none])) = true := by decide
example : hasType (.list (.union [.int, .none])) (.list 1 [.int 3, .none]) = true ∧
    hasType (.list (.union [.int, .none])) (.list 1 [.bool true]) = false := by
  constructor <;> rfl

end Koda
