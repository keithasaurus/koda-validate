/-
  C14 for the whole error tree.  `C14_root` speaks about the root of a returned error; here: *every
  node, at any depth, of any returned error tree is itself the error some validator returned for
  some value* (or the missing-key leaf a record validator writes), for every validator tree, mode,
  input and fuel (`C14_everywhere`) — so `C14_root` (names the responsible validator, holds the value it
  examined) applies to every node (`C14_node_of_sourced`).
-/
import KodaModel.Properties.C14

namespace Koda

/-- `e` is what some validator returned for some value -/
def Returned (o : Oracle) (env : Nat → V) (m : Mode) (e : Inv) : Prop :=
  ∃ n v x t, run o env m n v x = some (.invalid e, t)

inductive WellSourced (o : Oracle) (env : Nat → V) (m : Mode) : Inv → Prop
  | missing (dv : PyVal) (vid : Nat) : WellSourced o env m (.mk .missingKey dv vid [])
  | node (e : Inv) : Returned o env m e → (∀ c ∈ e.children, WellSourced o env m c) → WellSourced o env m e

theorem loopItems_children (ev : Ev1) (hr : Bool) : ∀ (xs : List PyVal) (i : Nat) (ne : Bool) (r : LoopR),
    loopItems ev hr xs i ne = some r → ∀ p ∈ r.es, ∃ y t, ev y = some (.invalid p.2, t) :=
  fun _ _ _ _ h => (Items.of_loop h).sources.2

theorem loopFields_children : ∀ (evs : List Ev1) (xs : List PyVal) (i : Nat) (r : LoopR),
    loopFields evs xs i = some r → ∀ p ∈ r.es, ∃ ev ∈ evs, ∃ y t, ev y = some (.invalid p.2, t) :=
  fun _ _ _ _ h => (Fields.of_loop h).sources.2

theorem unionLoop_children (x : PyVal) : ∀ (evs : List Ev1) (w : Option PyVal) (es : List Inv) (t : List Ev)
    (r : Option Exn), unionLoop x evs = some (w, es, t, r) →
    ∀ c ∈ es, ∃ ev ∈ evs, ∃ t', ev x = some (.invalid c, t') :=
  fun _ _ _ _ _ h => (UnionL.of_loop h).sources.2

theorem mapLoop_children (evk evv : Ev1) : ∀ (kvs acc : List (PyVal × PyVal)) (r : MapR),
    mapLoop evk evv kvs acc = some r →
    ∀ c ∈ r.errs, ∃ y t, evk y = some (.invalid c, t) ∨ evv y = some (.invalid c, t) :=
  fun _ _ _ h => (MapL.of_loop h).sources.2

theorem recLoop_children (vid : Nat) (dv : PyVal) (data : List (PyVal × PyVal)) :
    ∀ (evs : List Ev1) (ks : List PyVal) (reqs : List Bool) (r : RecR),
    recLoop vid dv data evs ks reqs = some r →
    ∀ c ∈ r.errs, (∃ ev ∈ evs, ∃ y t, ev y = some (.invalid c, t)) ∨ IsMissingLeaf c :=
  fun _ _ _ _ h c hc => ((RecL.of_loop h).sources.2 c hc).imp_right fun h => ⟨dv, vid, h⟩

theorem seqStep_children {k o m vid ps aps c ev x e t}
    (h : seqStep k o m vid ps aps c ev x = some (.invalid e, t)) :
    ∀ c' ∈ e.children, ∃ y t', ev y = some (.invalid c', t') := (seqStep_invalid h).2.2

theorem ntupleStep_children {o vid oc c lp evs x e t}
    (h : ntupleStep o vid oc c lp evs x = some (.invalid e, t)) :
    ∀ c' ∈ e.children, ∃ ev ∈ evs, ∃ y t', ev y = some (.invalid c', t') := (ntupleStep_invalid h).2.2

theorem mapStep_children {o m vid ps aps c evk evv x e t}
    (h : mapStep o m vid ps aps c evk evv x = some (.invalid e, t)) :
    ∀ c' ∈ e.children, ∃ y t', evk y = some (.invalid c', t') ∨ evv y = some (.invalid c', t') :=
  (mapStep_invalid h).2.2

theorem recordStep_children {o m vid cfg evs x e t}
    (h : recordStep o m vid cfg evs x = some (.invalid e, t)) :
    ∀ c' ∈ e.children, (∃ ev ∈ evs, ∃ y t', ev y = some (.invalid c', t')) ∨ IsMissingLeaf c' :=
  (recordStep_invalid h).2.2

theorem unionStep_children {vid evs x e t} (h : unionStep vid evs x = some (.invalid e, t)) :
    ∀ c' ∈ e.children, ∃ ev ∈ evs, ∃ t', ev x = some (.invalid c', t') := (unionStep_invalid h).2.2

/-- **C14, everywhere**: every node of every returned error tree was itself returned by a validator
    for some value (or is a missing-key leaf) -/
theorem C14_everywhere (o : Oracle) (env : Nat → V) (m : Mode) :
    ∀ n v x e t, run o env m n v x = some (.invalid e, t) → WellSourced o env m e := by
  intro n
  induction n with
  | zero => intro v x e t h; cases h
  | succ n ih =>
    intro v x e t h
    have ret : Returned o env m e := ⟨n + 1, v, x, t, h⟩
    have leaf : ∀ {vid}, OwnLeaf vid x e → WellSourced o env m e := fun hl =>
      .node e ret (by rw [hl.2.2]; nofun)
    have ihL : ∀ (vs : List V) (c' : Inv), (∃ ev ∈ vs.map (run o env m n), ∃ y t', ev y = some (.invalid c', t')) →
        WellSourced o env m c' := by
      rintro vs c' ⟨ev, hev, y, t', hy⟩
      obtain ⟨w, _, rfl⟩ := List.mem_map.1 hev
      exact ih w y c' t' hy
    cases v with
    | scalar vid tg c pre ps aps => exact leaf (scalarStep_prov (Option.some.inj h))
    | equals vid mt pre pid => exact leaf (equalsStep_prov (Option.some.inj h))
    | noneV vid c => exact leaf (noneStep_prov (Option.some.inj h))
    | always vid => cases h
    | isDict vid => exact leaf (isDictStep_prov (Option.some.inj h))
    | list vid item ps aps c | set vid item ps aps c | utuple vid item ps aps c =>
      refine .node e ret fun c' hc' => ?_
      obtain ⟨y, t', hy⟩ := seqStep_children h c' hc'
      exact ih item y c' t' hy
    | ntuple vid fs oc c lp => exact .node e ret fun c' hc' => ihL fs c' (ntupleStep_children h c' hc')
    | map vid kv vv ps aps c =>
      refine .node e ret fun c' hc' => ?_
      obtain ⟨y, t', hy | hy⟩ := mapStep_children h c' hc'
      · exact ih kv y c' t' hy
      · exact ih vv y c' t' hy
    | record vid cfg vs =>
      refine .node e ret fun c' hc' => ?_
      rcases recordStep_children h c' hc' with hch | ⟨dv, vid', rfl⟩
      · exact ihL vs c' hch
      · exact .missing dv vid'
    | union vid vs =>
      refine .node e ret fun c' hc' => ?_
      obtain ⟨ev, hev, t', hy⟩ := unionStep_children h c' hc'
      exact ihL vs c' ⟨ev, hev, x, t', hy⟩
    | optional vid nv inner =>
      refine .node e ret fun c' hc' => ?_
      obtain ⟨ev, hev, t', hy⟩ := unionStep_children h c' hc'
      exact ihL [nv, inner] c' ⟨ev, hev, x, t', hy⟩
    | maybe vid inner =>
      refine .node e ret fun c' hc' => ?_
      obtain ⟨y, t', hy⟩ := (maybeStep_invalid h).2.2 c' hc'
      exact ih inner y c' t' hy
    | «lazy» vid ref => exact ih (env ref) x e t h
    | knr vid inner =>
      rw [run, knrStep_eq] at h
      obtain ⟨⟨out, t0⟩, hx, hf⟩ := Option.map_eq_some_iff.1 h
      cases out <;> cases hf
      exact ih inner x _ t0 hx
    | user vid inner =>
      rw [run, userStep_eq] at h
      obtain ⟨⟨out, t0⟩, hx, hf⟩ := Option.map_eq_some_iff.1 h
      cases hf
      exact ih inner x e t0 hx

/-- … hence `C14_root` holds of every node: it names the validator responsible for the run that
    returned it, and a type / coercion / union / container error holds that run's input itself -/
theorem C14_node_of_sourced {o : Oracle} {env : Nat → V} {m : Mode} {e : Inv} (h : Returned o env m e) :
    ∃ v x, Names env v e.vid ∧ (e.kind.early = true → e.value = x) := by
  obtain ⟨n, v, x, t, hr⟩ := h
  exact ⟨v, x, C14_root o env m n v x e t hr⟩

end Koda
