/-
  C06 at the level of the source: for every validator whose two methods are translated on each run, the
  *translated synchronous method* and the *translated asynchronous method* agree — whenever the synchronous one returns
  anything but the guard's `AssertionError`, the asynchronous one returns the same outcome (verdict, payload, error tree,
  identities) having evaluated no async-only check.  Each statement is the corresponding `src_*` pair composed with the
  model's step-level agreement lemma; the children are related by `Rel`, i.e. they may themselves be run in the two modes.
-/
import KodaModel.Properties.C02Src
import KodaModel.Properties.C05Src
import KodaModel.Properties.C03Src
import KodaModel.Properties.C03Seq
import KodaModel.Properties.C03NTuple
import KodaModel.Properties.C03Map
import KodaModel.Properties.C04Record
import KodaModel.Properties.C04Class
import KodaModel.Properties.C06

namespace Koda

theorem Rel.of_eq {f g f' g' : Ev1} (hf : ∀ x, f x = f' x) (hg : ∀ x, g x = g' x) (h : Rel f' g') : Rel f g := by
  intro x r t hx hr
  rw [hf] at hx
  rw [hg]
  exact h x r t hx hr

/-- `ListValidator`: `_validate_to_tuple` against `_validate_to_tuple_async` -/
theorem C06_src_list (o : Oracle) (cS cA : ListCfg) (hv : cS.vid = cA.vid) (hc : cS.coerce = cA.coerce)
    (hp : cS.preds.getD [] = cA.preds.getD []) (ha : cS.apreds.getD [] = cA.apreds.getD []) (hi : Rel cS.item cA.item) :
    Rel (runListMethod o cS Src.listSync) (runListMethod o cA Src.listAsync) := by
  refine .of_eq (src_list_sync o cS) (src_list_async o cA) ?_
  rw [← hv, ← hc, ← hp, ← ha]
  exact seqStep_agree .list o cS.vid _ _ cS.coerce hi

theorem C06_src_set (o : Oracle) (cS cA : SeqCfg) (hkS : cS.kind = .set) (hkA : cA.kind = .set) (hv : cS.vid = cA.vid)
    (hc : cS.coerce = cA.coerce) (hp : cS.preds.getD [] = cA.preds.getD []) (ha : cS.apreds.getD [] = cA.apreds.getD [])
    (hi : Rel cS.item cA.item) :
    Rel (runSeqMethod o cS Src.setSync) (runSeqMethod o cA Src.setAsync) := by
  refine .of_eq (src_set_sync o cS hkS) (src_set_async o cA hkA) ?_
  rw [← hv, ← hc, ← hp, ← ha]
  exact seqStep_agree .set o cS.vid _ _ cS.coerce hi

theorem C06_src_utuple (o : Oracle) (cS cA : SeqCfg) (hkS : cS.kind = .utuple) (hkA : cA.kind = .utuple) (hv : cS.vid = cA.vid)
    (hc : cS.coerce = cA.coerce) (hp : cS.preds.getD [] = cA.preds.getD []) (ha : cS.apreds.getD [] = cA.apreds.getD [])
    (hi : Rel cS.item cA.item) :
    Rel (runSeqMethod o cS Src.utupleSync) (runSeqMethod o cA Src.utupleAsync) := by
  refine .of_eq (src_utuple_sync o cS hkS) (src_utuple_async o cA hkA) ?_
  rw [← hv, ← hc, ← hp, ← ha]
  exact seqStep_agree .utuple o cS.vid _ _ cS.coerce hi

theorem C06_src_ntuple (o : Oracle) (cS cA : NTupCfg) (hv : cS.vid = cA.vid) (hc : cS.coerce = cA.coerce) (ho : cS.oc = cA.oc)
    (hl : cS.lenPid = cA.lenPid) (hf : RelL cS.fields cA.fields) :
    Rel (runNTupleMethod o cS Src.ntupleSync) (runNTupleMethod o cA Src.ntupleAsync) := by
  refine .of_eq (src_ntuple_sync o cS) (src_ntuple_async o cA) ?_
  rw [← hv, ← hc, ← ho, ← hl]
  exact ntupleStep_agree o cS.vid cS.oc cS.coerce cS.lenPid hf

/-- `MapValidator`: `__call__` against `validate_async` -/
theorem C06_src_map (o : Oracle) (cS cA : MapCfg) (hv : cS.vid = cA.vid) (hc : cS.coerce = cA.coerce)
    (hp : cS.preds.getD [] = cA.preds.getD []) (ha : cS.apreds.getD [] = cA.apreds.getD [])
    (hk : Rel cS.key cA.key) (hvv : Rel cS.value cA.value) :
    Rel (runMapMethod o cS Src.mapSync) (runMapMethod o cA Src.mapAsync) := by
  refine .of_eq (src_map_sync o cS) (src_map_async o cA) ?_
  rw [← hv, ← hc, ← hp, ← ha]
  exact mapStep_agree o cS.vid _ _ cS.coerce hk hvv

theorem C06_src_dictany (o : Oracle) (cS cA : DictAnyCfg) (hv : cS.vid = cA.vid) (hr : cS.toRec = cA.toRec)
    (he : RelL cS.evs cA.evs) :
    Rel (runDictAnyMethod cS Src.dictAnySync) (runDictAnyMethod cA Src.dictAnyAsync) := by
  refine .of_eq (src_dictany_sync o cS) (src_dictany_async o cA) ?_
  rw [← hv, ← hr]
  exact recordStep_agree o cS.vid cS.toRec he

theorem C06_src_record (o : Oracle) (cS cA : DictAnyCfg) (hv : cS.vid = cA.vid) (hr : cS.toRecord = cA.toRecord)
    (he : RelL cS.evs cA.evs) :
    Rel (runDictAnyMethod cS Src.recordSync) (runDictAnyMethod cA Src.recordAsync) := by
  refine .of_eq (src_record_sync o cS) (src_record_async o cA) ?_
  rw [← hv, ← hr]
  exact recordStep_agree o cS.vid cS.toRecord he

/-- `TypedDictValidator`, on inputs whose accepted gate value is a dict -/
theorem C06_src_typeddict (o : Oracle) (cS cA : DictAnyCfg) (hv : cS.vid = cA.vid) (hr : cS.toTD = cA.toTD)
    (he : RelL cS.evs cA.evs) (x : PyVal)
    (hS : ∀ y t, tdGate cS x = .acc y t → (dictItems y).isSome = true)
    (hA : ∀ y t, tdGate cA x = .acc y t → (dictItems y).isSome = true)
    (r : Out) (t : List Ev) (h : runDictAnyMethod cS Src.typedDictSync x = some (r, t)) (hne : r ≠ .raised .assertion) :
    ∃ ta, runDictAnyMethod cA Src.typedDictAsync x = some (r, ta) ∧ noA ta = true := by
  rw [src_typeddict_sync o cS x hS] at h
  rw [src_typeddict_async o cA x hA, ← hv, ← hr]
  exact recordStep_agree o cS.vid cS.toTD he x r t h hne

/-- `DataclassValidator` / `NamedTupleValidator` -/
theorem C06_src_class (o : Oracle) (cS cA : DictAnyCfg) (hv : cS.vid = cA.vid) (hr : cS.toClass = cA.toClass)
    (he : RelL cS.evs cA.evs) (x : PyVal)
    (hS : ∀ y t, clsGate cS x = .acc y t → (dictItems y).isSome = true)
    (hA : ∀ y t, clsGate cA x = .acc y t → (dictItems y).isSome = true)
    (hwS : ∀ c v, x = .sub c v → c ≠ cS.cls) (hwA : ∀ c v, x = .sub c v → c ≠ cA.cls)
    (r : Out) (t : List Ev) (h : runDictAnyMethod cS Src.dataclassSync x = some (r, t)) (hne : r ≠ .raised .assertion) :
    ∃ ta, runDictAnyMethod cA Src.dataclassAsync x = some (r, ta) ∧ noA ta = true := by
  rw [src_dataclass_sync o cS x hS hwS] at h
  rw [src_dataclass_async o cA x hA hwA, ← hv, ← hr]
  exact recordStep_agree o cS.vid cS.toClass he x r t h hne

/-- the scalar pipeline of `_internal.py` (behind all ten scalar validators) -/
theorem C06_src_scalar (o : Oracle) (cfg : ScalarCfg) (x : PyVal) (r : Out) (t : List Ev)
    (h : runMethod o cfg Src.scalarSync x = some (r, t)) (hr : r ≠ .raised .assertion) :
    runMethod o cfg Src.scalarAsync x = some (r, t) ∧ noA t = true := by
  rw [src_scalar_sync, Option.some.injEq] at h
  rw [src_scalar_async, Option.some.injEq]
  exact scalarStep_agree o _ _ _ _ _ _ x r t h hr

/-- the union loop of `_internal.py` (behind `UnionValidator` and `OptionalValidator`) -/
theorem C06_src_union (vid : Nat) (cS cA : List UChild) (hf : RelL (cS.map (·.ev)) (cA.map (·.ev))) :
    Rel (fun x => runUnionBody ⟨vid, cS, x⟩ Src.unionSync) (fun x => runUnionBody ⟨vid, cA, x⟩ Src.unionAsync) := by
  exact .of_eq (src_union_sync vid cS) (src_union_async vid cA) (unionStep_agree vid hf)

end Koda
