/-
  C05 / C02 — the small validators *as written in /repo's current source*: `MaybeValidator`, `KeyNotRequired`,
  `Lazy`, `AlwaysValid`, `NoneValidator`, `IsDictValidator`.  `Generated/WrapSrc.lean` is rewritten on every run;
  each translated method, interpreted (`KodaModel/PyWrap.lean`), is the model's step — for every wrapped
  validator (its evaluator), every input; sync and async entry points.
-/
import KodaModel.Generated.WrapSrc
import KodaModel.Lemmas.Pre

namespace Koda

/-! Straight-line programs: `dsimp` (no proof term per step, unlike `simp`), split the wrapped validator's outcome, compute. -/

theorem ite_ff {α : Type} (a b : α) : (if false = true then a else b) = b := rfl
theorem ite_tt {α : Type} (a b : α) : (if true = true then a else b) = a := rfl

theorem maybeSync_run (o : Oracle) (vid : Nat) (ev : Ev1) (x : PyVal) :
    runWrap o ⟨vid, ev, none, false⟩ Src.maybeSync x = maybeStep vid ev x := by
  cases x with
  | just oid v =>
    dsimp only [runWrap, Src.maybeSync, WStmt.execL, WStmt.exec, WExp.eval, maybeStep, wcallChild]
    rcases ev v with _ | ⟨_ | _ | _, t⟩ <;> rfl
  | _ => rfl

/-- `await` is transparent and both wrappers call the wrapped validator the same way -/
theorem maybeAsync_run (o : Oracle) (cfg : WCfg) (x : PyVal) :
    runWrap o cfg Src.maybeAsync x = runWrap o cfg Src.maybeSync x := by
  dsimp only [runWrap, Src.maybeSync, Src.maybeAsync, WStmt.execL, WStmt.exec, WExp.eval]

theorem src_maybe (o : Oracle) (vid : Nat) (ev : Ev1) (x : PyVal) :
    runWrap o ⟨vid, ev, none, false⟩ Src.maybeSync x = maybeStep vid ev x ∧
    runWrap o ⟨vid, ev, none, false⟩ Src.maybeAsync x = maybeStep vid ev x :=
  ⟨maybeSync_run o vid ev x, (maybeAsync_run o _ x).trans (maybeSync_run o vid ev x)⟩

theorem src_knr (o : Oracle) (vid : Nat) (ev : Ev1) (x : PyVal) :
    runWrap o ⟨vid, ev, none, false⟩ Src.knrSync x = knrStep ev x ∧
    runWrap o ⟨vid, ev, none, false⟩ Src.knrAsync x = knrStep ev x := by
  constructor <;>
  · dsimp only [runWrap, Src.knrSync, Src.knrAsync, WStmt.execL, WStmt.exec, WExp.eval, knrStep, wcallChild, ite_ff]
    rcases ev x with _ | ⟨_ | _ | _, t⟩ <;> rfl

/-- `Lazy`: exactly what the validator its thunk returns does -/
theorem src_lazy (o : Oracle) (vid : Nat) (ev : Ev1) (x : PyVal) :
    runWrap o ⟨vid, ev, none, true⟩ Src.lazySync x = ev x ∧
    runWrap o ⟨vid, ev, none, true⟩ Src.lazyAsync x = ev x := by
  constructor <;>
  · dsimp only [runWrap, Src.lazySync, Src.lazyAsync, WStmt.execL, WStmt.exec, WExp.eval, wcallChild, ite_tt]
    rcases ev x with _ | ⟨_ | _ | _, t⟩ <;> rfl

theorem src_always (o : Oracle) (cfg : WCfg) (x : PyVal) :
    runWrap o cfg Src.alwaysSync x = some (.valid x, []) ∧ runWrap o cfg Src.alwaysAsync x = some (.valid x, []) :=
  ⟨rfl, rfl⟩

/-- `IsDictValidator` (its async entry point delegates: `src_wrap_pins`) -/
theorem src_isDict (o : Oracle) (cfg : WCfg) (x : PyVal) :
    runWrap o cfg Src.isDictSync x = some (isDictStep cfg.vid x) := by
  dsimp only [runWrap, Src.isDictSync, WStmt.execL, WStmt.exec, WExp.eval, isDictStep, wtruthy]
  by_cases h : x.baseTy = .dict
  · rw [if_pos h, beq_iff_eq.mpr h]
  · rw [if_neg h, beq_false_of_ne h]

/-- `NoneValidator` (its async entry point delegates: `src_wrap_pins`) -/
theorem src_none (o : Oracle) (vid : Nat) (ev : Ev1) (c : Option CoerceK) (x : PyVal) :
    runWrap o ⟨vid, ev, c, false⟩ Src.noneSync x = some (noneStep o vid c x) := by
  cases c with
  | none =>
    cases x <;> rfl
  | some ck =>
    dsimp only [runWrap, Src.noneSync, WStmt.execL, WStmt.exec, WExp.eval, wtruthy, noneStep, callNoneCoercer]
    cases hg : applyCoerce o .none .none default ck x with
    | exn e t => exact absurd hg ((applyCoerce_wf o .none .none default ck x).ne_exn e t)
    | rej k t => rw [applyCoerce_rej_kind hg]; rfl
    | acc y t => rfl

/-- the delegating entry points and `MaybeValidator.__init__` (pinned text) -/
theorem src_wrap_pins : Src.wrapPins =
    ["NoneValidator._validate_to_tuple_async: return self._validate_to_tuple(val)", "IsDictValidator._validate_to_tuple_async: return self._validate_to_tuple(val)", "MaybeValidator.__init__: self.validator = validator ; self._validator_sync = _wrap_sync_validator(self.validator) ; self._validator_async = _wrap_async_validator(self.validator)"] := rfl

example : runWrap default ⟨5, fun y => some (scalarStep default .sync 6 .int none [] [] [] y), none, false⟩ Src.maybeSync
      (.just 3 (.str [97])) =
    some (.invalid (.mk .container (.just 3 (.str [97])) 5 [.mk (.type .int) (.str [97]) 6 []]), []) := by
  rw [maybeSync_run]; rfl

end Koda
