/-
  C11, whole trees without `Lazy` nodes: the fragment `frag`, its specification `acc` and its side conditions `ok` are
  those of `C11Rec` with nothing for a `Lazy` node to refer to (`acc_rec`, `ok_rec`, `sfuel_rec`, `frag_rec`), and the
  tree theorem `C11_tree_partial` is the instance of `Rec.C11_tree_partial` in which the hypothesis about `Lazy` nodes
  is vacuous.  Headline: `C11_iff_partial`.
-/
import KodaModel.Properties.C11Rec

namespace Koda

mutual
/-- `Rec.frag` (C11Rec: its doc comment lists what is covered) without `Lazy` -/
def frag : V → Bool
  | .scalar _ tg c pre _ aps => (typeName tg).isSome && c.isNone && pre.isEmpty && aps.isEmpty
  | .list _ item _ aps c => c.isNone && aps.isEmpty && frag item
  | .union _ vs => fragL vs
  | .optional _ nv inner => isDefaultNone nv && frag inner
  | .knr _ inner => frag inner
  | .ntuple _ fs oc c _ => oc.isNone && isDfltCoerce c && fragL fs
  | .record _ cfg vs => recCfgOK cfg vs.length && fragL vs
  | .map _ kv vv _ aps c => c.isNone && aps.isEmpty && isPlainStrV kv && frag vv
  | .equals _ m pre _ => pre.isEmpty && (typeName m.ty).isSome
  | .utuple _ item _ aps c => isDfltCoerce c && aps.isEmpty && frag item
  | _ => false
termination_by structural v => v
def fragL : List V → Bool
  | [] => true
  | v :: vs => frag v && fragL vs
termination_by structural vs => vs
end

mutual
/-- `Rec.acc` without `Lazy`: the specification both sides are proved against -/
def acc : V → PyVal → Bool
  | .scalar _ tg _ _ ps _, x => decide (x.ty = tg) && ps.all (fun p => holds p.k x)
  | .list _ item ps _ _, x => isListV x && ((listItems x).all (fun y => acc item y) && ps.all (fun p => holds p.k x))
  | .union _ vs, x => accAny vs x
  | .optional _ _ inner, x => isNoneV x || acc inner x
  | .knr _ inner, x => acc inner x
  | .ntuple _ fs _ _ _, x => isListV x && (decide ((listItems x).length = fs.length) && accZip fs (listItems x))
  | .record _ cfg vs, x =>
    isDictV x && ((dictKvs x).all (fun p => memL p.1 cfg.keys || !cfg.failUnknown) &&
      accFields cfg.keys cfg.reqs vs (dictKvs x))
  | .map _ _ vv ps _ _, x =>
    isDictV x && ((dictKvs x).all (fun p => acc vv p.2) && ps.all (fun p => holds p.k x))
  | .equals _ m _ _, x => decide (x.ty = m.ty) && holds (.equalTo m) x
  | .utuple _ item ps _ _, x => isListV x && ((listItems x).all (fun y => acc item y) && ps.all (fun p => holds p.k x))
  | _, _ => false
termination_by structural v => v
def accAny : List V → PyVal → Bool
  | [], _ => false
  | v :: vs, x => acc v x || accAny vs x
termination_by structural vs => vs
def accZip : List V → List PyVal → Bool
  | v :: vs, y :: ys => acc v y && accZip vs ys
  | _, _ => true
termination_by structural vs => vs
def accFields : List PyVal → List Bool → List V → List (PyVal × PyVal) → Bool
  | k :: ks, r :: rs, v :: vs, kvs =>
    (match dictGet kvs k with | some xv => acc v xv | none => !r) && accFields ks rs vs kvs
  | _, _, _, _ => true
termination_by structural _ _ vs => vs
end

def countAcc : List V → PyVal → Nat
  | [], _ => 0
  | v :: vs, x => (if acc v x then 1 else 0) + countAcc vs x

mutual
/-- `Rec.ok` without `Lazy`: the side conditions, at every position of the value -/
def ok : V → PyVal → Bool
  | .scalar _ tg _ _ ps _, x => !(decide (x.ty = tg)) || ps.all (fun p => predCheck p.k x)
  | .list _ item ps _ _, x => !(isListV x) || (ps.all (fun p => predCheck p.k x) && (listItems x).all (fun y => ok item y))
  | .union _ vs, x => okAll vs x && decide (countAcc vs x ≤ 1)
  | .optional _ _ inner, x => isNoneV x || ok inner x
  | .knr _ inner, x => ok inner x
  | .ntuple _ fs _ _ _, x => !(isListV x) || okZip fs (listItems x)
  | .record _ cfg vs, x => okFields cfg.keys vs (dictKvs x)
  | .map _ _ vv ps _ _, x =>
    !(isDictV x) || (ps.all (fun p => predCheck p.k x) && (dictKvs x).all (fun p => ok vv p.2))
  | .utuple _ item ps _ _, x => !(isListV x) || (ps.all (fun p => predCheck p.k x) && (listItems x).all (fun y => ok item y))
  | _, _ => true
termination_by structural v => v
def okAll : List V → PyVal → Bool
  | [], _ => true
  | v :: vs, x => ok v x && okAll vs x
termination_by structural vs => vs
def okZip : List V → List PyVal → Bool
  | v :: vs, y :: ys => ok v y && okZip vs ys
  | _, _ => true
termination_by structural vs => vs
def okFields : List PyVal → List V → List (PyVal × PyVal) → Bool
  | k :: ks, v :: vs, kvs =>
    (match dictGet kvs k with | some xv => ok v xv | none => true) && okFields ks vs kvs
  | _, _, _ => true
termination_by structural _ vs => vs
end

mutual
/-- fuel from which the schema of the tree is decided -/
def sfuel : V → Nat
  | .list _ item _ _ _ => max (sfuel item) 1 + 1
  | .union _ vs => sfuelL vs + 1
  | .optional _ _ inner => max (sfuel inner) 1
  | .knr _ inner => sfuel inner
  | .ntuple _ fs _ _ _ => sfuelL fs + 1
  | .record _ _ vs => max (sfuelL vs) 1 + 1
  | .map _ _ vv _ _ _ => max (sfuel vv) 1 + 1
  | .utuple _ item _ _ _ => max (sfuel item) 1 + 1
  | _ => 2
termination_by structural v => v
def sfuelL : List V → Nat
  | [] => 0
  | v :: vs => max (sfuel v) (sfuelL vs)
termination_by structural vs => vs
end


/-! ### the fragment, specification and side conditions of `C11Rec` on trees without `Lazy`

`A := fun _ => false` and `L := 0` make `Rec.acc` and `Rec.sfuel` coincide with `acc` and `sfuel` on every tree;
`Rec.ok` coincides with `ok` on the fragment, whatever `O` is: we take `fun _ => false`. -/

mutual
theorem frag_rec (gd : Bool) : ∀ (v : V), frag v = true → Rec.frag gd v = true
  | .scalar .., h | .equals .., h => h
  | .list _ inner _ _ _, h | .utuple _ inner _ _ _, h | .map _ _ inner _ _ _, h => by
    simp only [frag, Rec.frag, Bool.and_eq_true] at h ⊢
    exact ⟨h.1, frag_rec true inner h.2⟩
  | .ntuple _ vs _ _ _, h | .record _ _ vs, h => by
    simp only [frag, Rec.frag, Bool.and_eq_true] at h ⊢
    exact ⟨h.1, fragL_rec true vs h.2⟩
  | .optional _ _ inner, h => by
    simp only [frag, Rec.frag, Bool.and_eq_true] at h ⊢
    exact ⟨h.1, frag_rec gd inner h.2⟩
  | .union _ vs, h => fragL_rec gd vs h
  | .knr _ inner, h => frag_rec gd inner h
  | .noneV .., h | .always _, h | .isDict _, h | .set .., h | .maybe .., h | .lazy .., h | .user .., h => by
    cases h
theorem fragL_rec (gd : Bool) : ∀ (vs : List V), fragL vs = true → Rec.fragL gd vs = true
  | [], _ => rfl
  | v :: vs, h => by
    simp only [fragL, Rec.fragL, Bool.and_eq_true] at h ⊢
    exact ⟨frag_rec gd v h.1, fragL_rec gd vs h.2⟩
end

mutual
theorem acc_rec : ∀ (v : V) (x : PyVal), Rec.acc (fun _ => false) v x = acc v x
  | .list _ inner _ _ _, x | .utuple _ inner _ _ _, x | .map _ _ inner _ _ _, x | .optional _ _ inner, x
  | .knr _ inner, x => by simp only [acc, Rec.acc, acc_rec inner]
  | .union _ vs, x => by simp only [acc, Rec.acc, accAny_rec vs]
  | .ntuple _ fs _ _ _, x => by simp only [acc, Rec.acc, accZip_rec fs]
  | .record _ _ vs, x => by simp only [acc, Rec.acc, accFields_rec _ _ vs]
  | .scalar .., _ | .equals .., _ | .noneV .., _ | .always _, _ | .isDict _, _ | .set .., _ | .maybe .., _
  | .lazy .., _ | .user .., _ => rfl
theorem accAny_rec : ∀ (vs : List V) (x : PyVal), Rec.accAny (fun _ => false) vs x = accAny vs x
  | [], _ => rfl
  | v :: vs, x => by simp only [accAny, Rec.accAny, acc_rec v, accAny_rec vs]
theorem accZip_rec : ∀ (vs : List V) (ys : List PyVal), Rec.accZip (fun _ => false) vs ys = accZip vs ys
  | [], _ | _ :: _, [] => rfl
  | v :: vs, y :: ys => by simp only [accZip, Rec.accZip, acc_rec v, accZip_rec vs]
theorem accFields_rec : ∀ (ks : List PyVal) (rs : List Bool) (vs : List V) (kvs : List (PyVal × PyVal)),
    Rec.accFields (fun _ => false) ks rs vs kvs = accFields ks rs vs kvs
  | _, _, [], _ => by simp only [accFields, Rec.accFields]
  | [], _, _ :: _, _ | _ :: _, [], _ :: _, _ => rfl
  | k :: ks, r :: rs, v :: vs, kvs => by
    simp only [accFields, Rec.accFields, accFields_rec ks rs vs]
    cases dictGet kvs k <;> simp only [acc_rec v]
end

theorem countAcc_rec : ∀ (vs : List V) (x : PyVal), Rec.countAcc (fun _ => false) vs x = countAcc vs x
  | [], _ => rfl
  | v :: vs, x => by simp only [countAcc, Rec.countAcc, acc_rec v, countAcc_rec vs]

mutual
theorem sfuel_rec : ∀ (v : V), Rec.sfuel 0 v = sfuel v
  | .list _ inner _ _ _ | .utuple _ inner _ _ _ | .map _ _ inner _ _ _ | .optional _ _ inner | .knr _ inner => by
    simp only [sfuel, Rec.sfuel, sfuel_rec inner]
  | .union _ vs | .ntuple _ vs _ _ _ | .record _ _ vs => by simp only [sfuel, Rec.sfuel, sfuelL_rec vs]
  | .scalar .. | .equals .. | .noneV .. | .always _ | .isDict _ | .set .. | .maybe .. | .lazy .. | .user .. => rfl
theorem sfuelL_rec : ∀ (vs : List V), Rec.sfuelL 0 vs = sfuelL vs
  | [] => rfl
  | v :: vs => by simp only [sfuelL, Rec.sfuelL, sfuel_rec v, sfuelL_rec vs]
end

mutual
theorem ok_rec : ∀ (v : V), frag v = true → ∀ (x : PyVal), Rec.ok (fun _ => false) (fun _ => false) v x = ok v x
  | .list _ inner _ _ _, h, x | .utuple _ inner _ _ _, h, x | .map _ _ inner _ _ _, h, x | .optional _ _ inner, h, x => by
    simp only [frag, Bool.and_eq_true] at h
    simp only [ok, Rec.ok, ok_rec inner h.2]
  | .knr _ inner, h, x => by simp only [ok, Rec.ok, ok_rec inner h]
  | .union _ vs, h, x => by simp only [ok, Rec.ok, okAll_rec vs h, countAcc_rec]
  | .ntuple _ fs _ _ _, h, x => by
    simp only [frag, Bool.and_eq_true] at h
    simp only [ok, Rec.ok, okZip_rec fs h.2]
  | .record _ _ vs, h, x => by
    simp only [frag, Bool.and_eq_true] at h
    simp only [ok, Rec.ok, okFields_rec vs h.2]
  | .lazy .., h, _ => by cases h
  | .scalar .., _, _ | .equals .., _, _ | .noneV .., _, _ | .always _, _, _ | .isDict _, _, _ | .set .., _, _
  | .maybe .., _, _ | .user .., _, _ => rfl
theorem okAll_rec : ∀ (vs : List V), fragL vs = true → ∀ (x : PyVal),
    Rec.okAll (fun _ => false) (fun _ => false) vs x = okAll vs x
  | [], _, _ => rfl
  | v :: vs, h, x => by
    simp only [fragL, Bool.and_eq_true] at h
    simp only [okAll, Rec.okAll, ok_rec v h.1, okAll_rec vs h.2]
theorem okZip_rec : ∀ (vs : List V), fragL vs = true → ∀ (ys : List PyVal),
    Rec.okZip (fun _ => false) (fun _ => false) vs ys = okZip vs ys
  | [], _, _ | _ :: _, _, [] => rfl
  | v :: vs, h, y :: ys => by
    simp only [fragL, Bool.and_eq_true] at h
    simp only [okZip, Rec.okZip, ok_rec v h.1, okZip_rec vs h.2]
theorem okFields_rec : ∀ (vs : List V), fragL vs = true → ∀ (ks : List PyVal) (kvs : List (PyVal × PyVal)),
    Rec.okFields (fun _ => false) (fun _ => false) ks vs kvs = okFields ks vs kvs
  | [], _, _, _ => by simp only [okFields, Rec.okFields]
  | _ :: _, _, [], _ => rfl
  | v :: vs, h, k :: ks, kvs => by
    simp only [fragL, Bool.and_eq_true] at h
    simp only [okFields, Rec.okFields, okFields_rec vs h.2]
    cases dictGet kvs k <;> simp only [ok_rec v h.1]
end

def SchemasDecide (root : J) (ref : Option (List Nat)) : List V → List J → PyVal → Nat → Prop
  | [], [], _, _ => True
  | v :: vs, j :: js, x, N => DecidesAt root ref j N x (acc v x) ∧ SchemasDecide root ref vs js x N
  | _, _, _, _ => False

theorem SchemasDecide_rec {root : J} {ref : Option (List Nat)} {x : PyVal} {N : Nat} : ∀ {vs : List V} {js : List J},
    Rec.SchemasDecide (fun _ => false) root ref vs js x N ↔ SchemasDecide root ref vs js x N
  | [], [] => Iff.rfl
  | v :: vs, j :: js => by
    simp only [SchemasDecide, Rec.SchemasDecide, acc_rec, SchemasDecide_rec (vs := vs) (js := js)]
  | [], _ :: _ => Iff.rfl
  | _ :: _, [] => Iff.rfl

theorem SchemasDecide.mono {root : J} {ref : Option (List Nat)} : ∀ {vs : List V} {js : List J} {x : PyVal} {N M : Nat},
    SchemasDecide root ref vs js x N → N ≤ M → SchemasDecide root ref vs js x M :=
  fun h hm => SchemasDecide_rec.1 ((SchemasDecide_rec.2 h).mono hm)

theorem SchemasDecide.count {root : J} {ref : Option (List Nat)} (N : Nat) (x : PyVal) :
    ∀ (vs : List V) (js : List J), SchemasDecide root ref vs js x N →
      (∀ j ∈ js, DecidesAt root ref j N x (evalSchema root ref N j x == some true)) ∧
      js.countP (fun j => evalSchema root ref N j x == some true) = countAcc vs x := by
  intro vs js h
  rw [← countAcc_rec]
  exact Rec.SchemasDecide.count N x vs js (SchemasDecide_rec.2 h)

def TreeOK (pr : Printer) (o : Oracle) (env : Nat → V) (root : J) (v : V) : Prop :=
  ∀ (x : PyVal), isJson x = true → ok v x = true →
    VDecides o env v x (acc v x) ∧
    ∀ j, toSchema pr none [] [] v = .ok j → DecidesAt root none j (sfuel v) x (acc v x)

theorem equals_schema_eq (pr : Printer) (vid pid : Nat) (m : PyVal) (t : String) (ht : typeName m.ty = some t) :
    toSchema pr none [] [] (.equals vid m [] pid) =
      toSchema pr none [] [] (.scalar vid m.ty none [] [⟨pid, .equalTo m⟩] []) :=
  Rec.equals_schema_eq pr none vid pid m t ht

def FieldsAgree (g : J → PyVal → Bool) (kvs : List (PyVal × PyVal)) : List (List Nat) → List V → List J → Prop
  | t :: ts, v :: vs, j :: js =>
    (∀ val, dictGet kvs (.str t) = some val → g j val = acc v val) ∧ FieldsAgree g kvs ts vs js
  | _, _, _ => True

theorem FieldsAgree_rec {g : J → PyVal → Bool} {kvs : List (PyVal × PyVal)} : ∀ {ts : List (List Nat)} {vs : List V} {js : List J},
    FieldsAgree g kvs ts vs js → Rec.FieldsAgree (fun _ => false) g kvs ts vs js
  | t :: ts, v :: vs, j :: js, h => ⟨fun val hv => (h.1 val hv).trans (acc_rec v val).symm, FieldsAgree_rec h.2⟩
  | [], _, _, _ => by simp [Rec.FieldsAgree]
  | _ :: _, [], _, _ => by simp [Rec.FieldsAgree]
  | _ :: _, _ :: _, [], _ => by simp [Rec.FieldsAgree]

theorem fields_formula (g : J → PyVal → Bool) (kvs : List (PyVal × PyVal)) :
    ∀ (ts : List (List Nat)) (rs : List Bool) (vs : List V) (js : List J),
      ts.length = vs.length → rs.length = vs.length → js.length = vs.length → FieldsAgree g kvs ts vs js →
      ((((ts.zip rs).filter (·.2)).map (·.1)).all (fun nm => dictHas kvs (.str nm)) &&
        (ts.zip js).all (propOk g kvs)) =
      accFields (ts.map PyVal.str) rs vs kvs := by
  intro ts rs vs js h1 h2 h3 ha
  rw [← accFields_rec]
  exact Rec.fields_formula g kvs ts rs vs js h1 h2 h3 (FieldsAgree_rec ha)

/-- **C11 for whole trees, partial**: for every tree of the fragment (any depth, any width), every JSON
    value `x` and under the side conditions `ok v x`, the validator terminates with verdict `acc v x`, and
    the generated schema, from fuel `sfuel v` on, evaluates to `acc v x` as well — so the schema accepts
    `x` iff the validator does.  (`_partial`: `ok` contains the agreement conditions that the code
    violates in findings D13, D14, D15; named recursion is in `C11Rec`.) -/
theorem C11_tree_partial (pr : Printer) (o : Oracle) (env : Nat → V) (root : J) :
    ∀ (v : V), frag v = true → TreeOK pr o env root v := by
  intro v hf x hx hok
  have h := Rec.C11_tree_partial (A := fun _ => false) (O := fun _ => false) (L := 0) (ctx := none) pr o env root
    (sizeOf x) (fun _ _ _ _ h => Bool.noConfusion h) v false (frag_rec false v hf) x hx (Nat.lt_succ_self _)
    ((ok_rec v hf x).trans hok)
  rwa [acc_rec, sfuel_rec] at h

theorem C11_tree_partialL (pr : Printer) (o : Oracle) (env : Nat → V) (root : J) :
    ∀ (vs : List V), fragL vs = true → AllP (TreeOK pr o env root) vs
  | [], _ => trivial
  | w :: ws, hf => by
    simp only [fragL, Bool.and_eq_true] at hf
    exact ⟨C11_tree_partial pr o env root w hf.1, C11_tree_partialL pr o env root ws hf.2⟩

/-- the headline: on the fragment and under `ok`, **schema accepts ⇔ validator accepts** -/
theorem C11_iff_partial (pr : Printer) (o : Oracle) (env : Nat → V) (root : J) (v : V) (hf : frag v = true)
    (x : PyVal) (hx : isJson x = true) (hok : ok v x = true) (j : J) (hj : toSchema pr none [] [] v = .ok j) :
    (∀ n, sfuel v ≤ n → evalSchema root none n j x = some true) ↔
      ∃ n w t, run o env .sync n v x = some (.valid w, t) := by
  obtain ⟨hv, hs⟩ := C11_tree_partial pr o env root v hf x hx hok
  exact decides_iff hv (hs j hj)

/-! ### non-vacuity: `Optional[List[Union[str (min length 1), int (>= 0)]]]` on `["a", 3]` and on `[""]` -/

def exTree : V :=
  .optional 1 (.noneV 2 none)
    (.list 3 (.union 4 [.scalar 5 .str none [] [⟨1, .minLength 1⟩] [], .scalar 6 .int none [] [⟨2, .min (.int 0) false⟩] []])
      [⟨3, .maxItems 5⟩] [] none)

example : frag exTree = true := by decide
example : isJson (.list 9 [.str [97], .int 3]) = true ∧ ok exTree (.list 9 [.str [97], .int 3]) = true ∧
    acc exTree (.list 9 [.str [97], .int 3]) = true := by decide
example : ok exTree (.list 9 [.str []]) = true ∧ acc exTree (.list 9 [.str []]) = false := by decide


/-- a record validator of the fragment: `{"a": str, "b"?: List[int]}`, unknown keys rejected -/
def exRecord : V :=
  .record 10 { kind := .dictAny
               keys := [.str [97], .str [98]]
               reqs := [true, false]
               cls := default
               fieldNames := []
               defaults := []
               intoId := 0
               into := fun _ => .none
               oc := none
               aoc := none
               failUnknown := true
               coerce := none }
    [.scalar 11 .str none [] [] [], .list 12 (.scalar 13 .int none [] [] []) [] [] none]

example : frag exRecord = true := by decide

/-- `Dict[str, Tuple[int, ...]]` with at most two keys (each tuple non-empty), and `EqualsValidator(7)` -/
def exMap : V :=
  .map 20 (.scalar 21 .str none [] [] []) (.utuple 22 (.scalar 23 .int none [] [] []) [⟨5, .minItems 1⟩] [] (some .dflt))
    [⟨4, .maxKeys 2⟩] [] none

example : frag exMap = true := by decide
example : frag (.equals 30 (.int 7) [] 6) = true := by decide
example : acc (.equals 30 (.int 7) [] 6) (.int 7) = true ∧ acc (.equals 30 (.int 7) [] 6) (.bool true) = false := by
  refine ⟨by decide, by decide⟩


end Koda
