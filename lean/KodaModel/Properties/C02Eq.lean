/-
  C02 — `EqualsValidator` *as written in /repo's current source*.  `Generated/EqSrc.lean` is rewritten on every
  run from the AST of `EqualsValidator._validate_to_tuple` (generic.py; the async entry point delegates to it and
  `__init__` builds `self.predicate = EqualTo(match)`: pinned).  Interpreting the translated method
  (`KodaModel/PyEq.lean`) is the model's `equalsStep`, for every `match`, every list of preprocessors and every
  input.
-/
import KodaModel.Generated.EqSrc
import KodaModel.Lemmas.SrcLoops

namespace Koda

/-! `EStmt` / `ESt` are this method's own interpreter and state, so the two lemmas below are the counterparts of
    `forFold_procs` / `procBody_exec` (C02Src) for it, not copies. -/

theorem eforFold_procs (execBody : ESt → Except (EErr × List Ev) EFlow)
    (Hb : ∀ (st : ESt) (p : Proc) (y : PyVal), st.env.preprocess = .proc p → st.env.val = .py y →
      execBody st = (match p.k.call y with
        | .ok z => .ok (.next { env := st.env.set .val (.py z), tr := st.tr ++ p.ev })
        | .error e => .error (.exn e, st.tr ++ p.ev))) :
    ∀ (ps : List Proc) (st : ESt) (y : PyVal), st.env.val = .py y →
      (∀ e t2, runProcs ps y = (.error e, t2) →
        eforFold execBody .preprocess (ps.map EV.proc) st = .error (.exn e, st.tr ++ t2)) ∧
      (∀ z t2, runProcs ps y = (.ok z, t2) →
        ∃ st', eforFold execBody .preprocess (ps.map EV.proc) st = .ok (.next st') ∧ st'.env.val = .py z ∧ st'.tr = st.tr ++ t2) :=
  procLoop_spec (fun ps st => eforFold execBody .preprocess (ps.map EV.proc) st) ESt.tr (fun st y => st.env.val = .py y)
    (fun st => .ok (.next st)) (fun e t => .error (.exn e, t)) (fun _ => rfl)
    (by
      intro p ps st y hy
      have hb := Hb { st with env := st.env.set .preprocess (.proc p) } p y rfl hy
      simp only [List.map_cons, eforFold, hb]
      exact ⟨fun e h => by rw [h], fun z h => by rw [h]; exact ⟨_, rfl, rfl, rfl⟩⟩)

def eqProcBody : List EStmt := [.assign .val (.call1 (.var .preprocess) (.var .val))]

theorem eqProcBody_exec (cfg : EqCfg) (st : ESt) (p : Proc) (y : PyVal)
    (h1 : st.env.preprocess = .proc p) (h2 : st.env.val = .py y) :
    EStmt.execL cfg st eqProcBody = (match p.k.call y with
      | .ok z => .ok (.next { env := st.env.set .val (.py z), tr := st.tr ++ p.ev })
      | .error e => .error (.exn e, st.tr ++ p.ev)) := by
  obtain ⟨⟨val, mt, pp⟩, tr⟩ := st
  cases h1
  cases h2
  dsimp only [eqProcBody, EStmt.execL, EStmt.exec, EExp.eval, EEnv.get]
  cases p.k.call y <;> rfl

def outE : Except (EErr × List Ev) EFlow → Option (Out × List Ev)
  | .error (.exn e, t) => some (.raised e, t)
  | .error (.stuck _, _) => none
  | .ok (.returned (.pair (.bool true) (.py w)) st) => some (.valid w, st.tr)
  | .ok (.returned (.pair (.bool false) (.invalid e)) st) => some (.invalid e, st.tr)
  | .ok _ => none

theorem runEq_eq (cfg : EqCfg) (body : List EStmt) (x : PyVal) :
    runEq cfg body x = outE (EStmt.execL cfg { env := { val := .py x }, tr := [] } body) := rfl

theorem eflow_id (r : Except (EErr × List Ev) EFlow) :
    (match r with
     | .error err => .error err
     | .ok (.next st) => .ok (.next st)
     | .ok (.returned d st) => .ok (.returned d st)) = r := by
  cases r with
  | error e => rfl
  | ok f => cases f <;> rfl

theorem eexecL_nil (cfg : EqCfg) (st : ESt) : EStmt.execL cfg st [] = .ok (.next st) := rfl

theorem eexecL_cons (cfg : EqCfg) (st : ESt) (s : EStmt) (rest : List EStmt) :
    EStmt.execL cfg st (s :: rest) =
      (match s.exec cfg st with
       | .error err => .error err
       | .ok (.next st) => EStmt.execL cfg st rest
       | .ok (.returned d st) => .ok (.returned d st)) := rfl

theorem eexecL_single (cfg : EqCfg) (st : ESt) (s : EStmt) : EStmt.execL cfg st [s] = EStmt.exec cfg st s :=
  eflow_id _

theorem eexec_ite (cfg : EqCfg) (st : ESt) (c : EExp) (t e : List EStmt) :
    EStmt.exec cfg st (.ite c t e) =
      (match c.eval cfg st with
       | .error err => .error err
       | .ok (d, st) =>
         match etruthy d with
         | none => .error (.stuck "truth value", st.tr)
         | some true => EStmt.execL cfg st t
         | some false => EStmt.execL cfg st e) := rfl

def eqFinal : EStmt :=
  .ite (.call1 (.selfAttr .predicate) (.var .val))
    [.ret (.pair (.bool true) (.var .val))]
    [.ret (.pair (.bool false) (.mkInvalid (.mkPredErrs (.list1 (.selfAttr .predicate))) (.var .val) .self))]

def eqProcs : EStmt := .ite (.selfAttr .preprocessors) [.forIn .preprocess (.selfAttr .preprocessors) eqProcBody] []

theorem equals_eq : Src.equalsSync =
    [.ite (.eq (.walrus .matchType (.typeOf (.selfAttr .match_))) (.typeOf (.var .val)))
       [eqProcs, eqFinal]
       [.ret (.pair (.bool false) (.mkInvalid (.mkTypeErr (.var .matchType)) (.var .val) .self))]] := rfl

theorem eqFinal_exec (cfg : EqCfg) (st1 : ESt) (z : PyVal) (hz : st1.env.val = .py z) :
    outE (EStmt.execL cfg st1 [eqFinal]) =
      some (match pyEqX z cfg.mt with
        | .error e => (.raised e, st1.tr)
        | .ok true => (.valid z, st1.tr)
        | .ok false => (.invalid (.mk (.preds [cfg.pid]) z cfg.vid []), st1.tr)) := by
  obtain ⟨⟨val, mt, pp⟩, tr⟩ := st1
  cases hz
  dsimp only [eqFinal, EStmt.execL, EStmt.exec, EExp.eval, EEnv.get, PredK.call]
  rcases pyEqX z cfg.mt with _ | _ | _ <;> rfl

theorem equals_tail (cfg : EqCfg) (st : ESt) (x : PyVal) (hx : st.env.val = .py x) :
    outE (EStmt.execL cfg st [eqProcs, eqFinal]) =
    some (match runProcs (cfg.pre.getD []) x with
      | (.error e, t) => (.raised e, st.tr ++ t)
      | (.ok z, t) =>
        match pyEqX z cfg.mt with
        | .error e => (.raised e, st.tr ++ t)
        | .ok true => (.valid z, st.tr ++ t)
        | .ok false => (.invalid (.mk (.preds [cfg.pid]) z cfg.vid []), st.tr ++ t)) := by
  obtain ⟨vid, mt, pre, pid⟩ := cfg
  rcases pre with _ | _ | ⟨p, ps⟩
  case some.cons =>
    obtain ⟨f1, f2⟩ := eforFold_procs (fun st => EStmt.execL ⟨vid, mt, some (p :: ps), pid⟩ st eqProcBody)
      (fun st p y h1 h2 => eqProcBody_exec _ st p y h1 h2) (p :: ps) st x hx
    have hfor : EStmt.exec ⟨vid, mt, some (p :: ps), pid⟩ st eqProcs =
        eforFold (fun st => EStmt.execL _ st eqProcBody) .preprocess ((p :: ps).map EV.proc) st :=
      eexecL_single _ st (.forIn .preprocess (.selfAttr .preprocessors) eqProcBody)
    rw [eexecL_cons, hfor]
    dsimp only [Option.getD_some]
    rcases hr : runProcs (p :: ps) x with ⟨_ | z, t2⟩
    · rw [f1 _ t2 hr]; rfl
    · obtain ⟨st', g1, g2, g3⟩ := f2 z t2 hr
      rw [g1]
      exact (eqFinal_exec _ st' z g2).trans (by rw [g3])
  all_goals
    show outE (EStmt.execL _ st [eqFinal]) = _
    rw [eqFinal_exec _ st x hx]
    simp only [Option.getD, runProcs, List.append_nil]

/-- **`EqualsValidator._validate_to_tuple`, as written in the source, is the model's `equalsStep`** -/
theorem src_equals (cfg : EqCfg) (x : PyVal) :
    runEq cfg Src.equalsSync x = some (equalsStep cfg.vid cfg.mt (cfg.pre.getD []) cfg.pid x) := by
  rw [runEq_eq, equals_eq, eexecL_single, eexec_ite]
  rw [show (EExp.eq (.walrus .matchType (.typeOf (.selfAttr .match_))) (.typeOf (.var .val))).eval cfg
        { env := { val := .py x }, tr := [] } =
      .ok (.bool (cfg.mt.ty == x.ty), { env := { val := .py x, matchType := .ty cfg.mt.ty }, tr := [] }) from rfl]
  unfold equalsStep
  by_cases hty : cfg.mt.ty = x.ty
  · rw [beq_iff_eq.mpr hty, if_pos hty]
    refine (equals_tail cfg { env := { val := .py x, matchType := .ty cfg.mt.ty }, tr := [] } x rfl).trans ?_
    rcases runProcs (cfg.pre.getD []) x with ⟨_ | z, t⟩
    · rfl
    · rcases pyEqX z cfg.mt with _ | _ | _ <;> rfl
  · rw [beq_false_of_ne hty, if_neg hty]
    rfl

/-- the async entry point delegates; `self.predicate` is `EqualTo(match)` -/
theorem src_equals_pins : Src.equalsPins =
    ["EqualsValidator._validate_to_tuple_async: return self._validate_to_tuple(val)",
     "EqualsValidator.__init__: self.match = match ; self.preprocessors = preprocessors ; self.predicate: EqualTo[ExactMatchT] = EqualTo(match)"] := rfl

end Koda
