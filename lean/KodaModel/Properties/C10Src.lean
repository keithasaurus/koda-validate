/-
  C10 / C11, tied to the source: `generate_schema_predicate` as it stands in
  koda_validate/serialization/json_schema.py, translated on every run (`Generated/SchemaPredSrc.lean`) and
  interpreted (`KodaModel/PySchemaPred.lean`), is the model's `predSchema` — for every predicate (every
  parameter value) and every printer.
-/
import KodaModel.PySchemaPred
import KodaModel.Generated.SchemaPredSrc
import KodaModel.Generated.PredSrc
import KodaModel.Properties.C10
import KodaModel.Properties.C10WF

namespace Koda

theorem src_pred_schema (pr : Printer) (p : PredK) :
    runGenSchemaPred pr Src.genSchemaPredicate p = predSchema pr p := by
  cases p with
  | startsWith v => cases v <;> rfl
  | endsWith v => cases v <;> rfl
  | _ => rfl

/-- **C10 at the source, predicates**: the translated `generate_schema_predicate` returns an object or raises
    `TypeError` — nothing else — for every predicate (CPython's printers being total) -/
theorem C10_src_pred_outcome (pr : Printer) (ht : pr.Total) (p : PredK) :
    OkOrTE (runGenSchemaPred pr Src.genSchemaPredicate p) := by
  rw [src_pred_schema]; exact predSchema_outcome pr ht p

/-- **C10 at the source, predicates (well-formed)**: what it returns carries, under every keyword, a value of the shape
    the Draft 2020-12 metaschema demands
    (for predicates with non-negative length / count parameters and finite numeric bounds: `wfSafe`) -/
theorem C10_src_pred_wf (pr : Printer) (p : PredK) (o : JObj) (hp : p.wfSafe = true)
    (h : runGenSchemaPred pr Src.genSchemaPredicate p = .ok o) : wfO o = true := by
  rw [src_pred_schema] at h; exact predSchema_wf pr p o hp h

/-- the classes with an arm are predicate classes the library defines, each at most once -/
theorem src_pred_schema_arms_known :
    (Src.genSchemaPredicate.arms.map (·.cls)).Nodup ∧
      ∀ a ∈ Src.genSchemaPredicate.arms, (match a.cls with | .other _ => false | _ => true) = true := by decide

/-- `_enum_value`, `unhandled_type` and `_add_predicate_schema` (modelled by `enumValue`, the `TypeError` of the last
    arm, `jaddPred`) are outside the translated subset: pinned -/
theorem src_schema_pins : Src.schemaPins = ["_enum_value: match_t = type(match) ; if match_t is str or match_t is int or match_t is None or (match_t is float) or (match_t is bool):\n    choice: Serializable = match\nelif match_t is date:\n    choice = match.isoformat()\nelif match_t is datetime:\n    choice = match.isoformat()\nelif match_t is Decimal:\n    choice = str(match)\nelif match_t is UUID:\n    choice = str(match)\nelif match_t is bytes:\n    try:\n        choice = match.decode('utf-8')\n    except UnicodeDecodeError as e:\n        raise TypeError(f'bytes value {match!r} cannot be represented in JSON') from e\nelse:\n    raise TypeError(f'got unexpected type: {type(match)}') ; return choice",
    "unhandled_type: raise TypeError(f'type {type(obj)} not handled. You may want to write a wrapper function.')",
    "_add_predicate_schema: if any((keyword in ret for keyword in pred_schema)):\n    all_of = ret.setdefault('allOf', [])\n    assert isinstance(all_of, list)\n    all_of.append(pred_schema)\nelse:\n    ret.update(pred_schema)"] := rfl

example (pr : Printer) (n : Int) :
    runGenSchemaPred pr Src.genSchemaPredicate (.min (.int n) true) = .ok [(kw "exclusiveMinimum", rawJ (.int n))] := rfl

end Koda
