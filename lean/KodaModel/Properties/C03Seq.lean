/-
  C03 — the set and uniform-tuple validators *as written in /repo's current source*.

  `Generated/SeqSrc.lean` is rewritten on every run from the AST of `SetValidator._validate_to_tuple` /
  `_validate_to_tuple_async` (koda_validate/set.py) and of the same two methods of `UniformTupleValidator`
  (koda_validate/tuple.py).  Interpreting the translated methods (`KodaModel/PySeq.lean`) is the model's
  `seqStep .set` / `seqStep .utuple`: for every configuration (coercer or not, any container predicates, any async
  predicates — `None` and `[]` told apart where the source can), every item validator of either flavour
  (`_ToTupleValidator` or plain `Validator`) and every input — container-level failures before any element, every
  element validated, every failing member / index with the child's own `Invalid`, payloads in order (a set's added one by
  one, `TypeError` on an unhashable one while no error has been seen), trace and exceptions.
-/
import KodaModel.Generated.SeqSrc
import KodaModel.Lemmas.SrcLoops

namespace Koda

-- realises the equations of the interpreter once for this file; otherwise every proof that unfolds it derives them again
attribute [local simp] QExp.eval QStmt.exec QStmt.execL qtruthy qselfAttr QEnv.get QEnv.set

def tyExp : Ty → QExp
  | .list => .listTy | .set => .setTy | .tuple => .tupleTy | _ => .unsupported "type name"

def qGuard : QStmt := .ite (.selfAttr .predicatesAsync) [.expr (.warn (.selfAttr .cls))] []

def qGate (k : SeqKind) : QStmt :=
  .ite (.selfAttr .coerce)
    [.ite (.not (.attr (.walrus .coerced (.call1 (.selfAttr .coerce) .val)) .isJust))
       [.ret (.pair (.bool false) (.mkInvalid (.mkCoercionErr (.attr (.selfAttr .coerce) .compatibleTypes) (tyExp k.destTy)) .val .self))]
       [.assign .coercedVal (.attr (.var .coerced) .valA)]]
    [.ite (.typeIs .val (tyExp k.gateTy)) [.assign .coercedVal .val]
       [.ret (.pair (.bool false) (.mkInvalid (.mkTypeErr (tyExp k.gateTy)) .val .self))]]

def qSyncComp : QExp :=
  .listComp (.var .pred) .pred (.selfAttr .predicates) (.not (.call1 (.var .pred) (.var .coercedVal)))

def qPredsSync : QStmt :=
  .ite (.selfAttr .predicates)
    [.assign .listErrors qSyncComp,
     .ite (.var .listErrors) [.ret (.pair (.bool false) (.mkInvalid (.mkPredErrs (.var .listErrors)) (.var .coercedVal) .self))] []]
    []

/-- calling the item validator the way its flavour allows, and reading `(is_valid, payload-or-Invalid)` off the answer -/
def qDispatch (aw : Bool) : QStmt :=
  .ite (.selfAttr .itemIsTuple)
    [.assign2 .isValid .itemResult
       (if aw then .await (.meth (.selfAttr .itemValidator) .validateToTupleAsync (.var .item))
        else .meth (.selfAttr .itemValidator) .validateToTuple (.var .item))]
    [.assign .result
       (if aw then .await (.meth (.selfAttr .itemValidator) .validateAsync (.var .item))
        else .call1 (.selfAttr .itemValidator) (.var .item)),
     .assign2 .isValid .itemResult
       (.ifExp (.attr (.var .result) .isValid) (.pair (.bool true) (.attr (.var .result) .valA)) (.pair (.bool false) (.var .result)))]

/-- files the item's result: `if not is_valid: <index_errs gets it> elif not index_errs: <return_list gets it>` -/
def qFile : SeqKind → QStmt
  | .set => .ite (.not (.var .isValid)) [.append .indexErrs (.var .itemResult)]
      [.ite (.not (.var .indexErrs)) [.add .returnList (.var .itemResult)] []]
  | _ => .ite (.not (.var .isValid)) [.setItem .indexErrs (.var .i) (.var .itemResult)]
      [.ite (.not (.var .indexErrs)) [.append .returnList (.var .itemResult)] []]

def qLoopBody (k : SeqKind) (aw : Bool) : List QStmt := [qDispatch aw, qFile k]

def qLoop (k : SeqKind) (aw : Bool) : QStmt := .forIn2 .i .item (.enumerate (.var .coercedVal)) (qLoopBody k aw)

def qFinal : SeqKind → QStmt
  | .set => .ite (.var .indexErrs)
      [.ret (.pair (.bool false) (.mkInvalid (.mkSetErrs (.var .indexErrs)) (.var .coercedVal) .self))]
      [.ret (.pair (.bool true) (.var .returnList))]
  | _ => .ite (.var .indexErrs)
      [.ret (.pair (.bool false) (.mkInvalid (.mkIndexErrs (.var .indexErrs)) (.var .coercedVal) .self))]
      [.ret (.pair (.bool true) (.tupleOf (.var .returnList)))]

def qInit : SeqKind → List QStmt
  | .set => [.assign .returnList .emptySet, .assign .indexErrs .emptyList]
  | _ => [.assign .returnList .emptyList, .assign .indexErrs .emptyDict]

def qTail (k : SeqKind) (aw : Bool) : List QStmt := qInit k ++ [qLoop k aw, qFinal k]

def qAsyncBody (ev : QVar) : List QStmt :=
  [.ite (.not (.await (.meth (.var .predAsync) .validateAsync (.var .coercedVal))))
     [.append ev (.var .predAsync)] []]

/-- the async method's container predicates: `ev` is the variable collecting the failures, `notNone` whether the list of
    async predicates is tested with `is not None` (set) or for truth (uniform tuple) -/
def qAsyncPreds (ev : QVar) (notNone : Bool) : List QStmt :=
  [.assign ev .emptyList,
   .ite (.selfAttr .predicates) [.extend ev qSyncComp] [],
   .ite (if notNone then .isNotNone (.selfAttr .predicatesAsync) else .selfAttr .predicatesAsync)
     [.forIn .predAsync (.selfAttr .predicatesAsync) (qAsyncBody ev)] [],
   .ite (.var ev)
     [.ret (.pair (.bool false) (.mkInvalid (.mkPredErrs (.var ev)) (.var .coercedVal) .self))] []]

theorem setSync_eq : Src.setSync = qGuard :: qGate .set :: qPredsSync :: qTail .set false := rfl
theorem setAsync_eq : Src.setAsync = qGate .set :: (qAsyncPreds .predicateErrors true ++ qTail .set true) := rfl
theorem utupleSync_eq : Src.utupleSync = qGuard :: qGate .utuple :: qPredsSync :: qTail .utuple false := rfl
theorem utupleAsync_eq : Src.utupleAsync = qGate .utuple :: (qAsyncPreds .listErrors false ++ qTail .utuple true) := rfl

def outQ (cfg : SeqCfg) : Except (QErr × List Ev) QFlow → Option (Out × List Ev)
  | .error (.exn e, t) => some (.raised e, t)
  | .error (_, _) => none
  | .ok (.returned (.pair (.bool true) (.setPayloads ws)) st) =>
    if cfg.kind = .set then some (.valid (.set 0 (dedup ws)), st.tr) else none
  | .ok (.returned (.pair (.bool true) (.tupled ws)) st) =>
    if cfg.kind = .utuple then some (.valid (.tuple 0 ws), st.tr) else none
  | .ok (.returned (.pair (.bool false) (.invalid e)) st) => some (.invalid e, st.tr)
  | .ok _ => none

theorem runSeqMethod_eq (o : Oracle) (cfg : SeqCfg) (body : List QStmt) (x : PyVal) :
    runSeqMethod o cfg body x = outQ cfg (QStmt.execL o cfg x { env := {}, tr := [] } body) := by
  simp only [runSeqMethod, outQ]
  rfl

theorem qexecL_nil (o : Oracle) (cfg : SeqCfg) (x : PyVal) (st : QSt) : QStmt.execL o cfg x st [] = .ok (.next st) := by
  simp only [QStmt.execL]

theorem qexecL_cons (o : Oracle) (cfg : SeqCfg) (x : PyVal) (st : QSt) (s : QStmt) (rest : List QStmt) :
    QStmt.execL o cfg x st (s :: rest) =
      (match s.exec o cfg x st with
       | .error err => .error err
       | .ok (.next st) => QStmt.execL o cfg x st rest
       | .ok (.returned d st) => .ok (.returned d st)) := by
  simp only [QStmt.execL]
  rfl

theorem qexecL_single (o : Oracle) (cfg : SeqCfg) (x : PyVal) (st : QSt) (s : QStmt) :
    QStmt.execL o cfg x st [s] = QStmt.exec o cfg x st s := by
  rw [qexecL_cons]
  simp only [qexecL_nil]
  rcases QStmt.exec o cfg x st s with _ | (_ | _) <;> rfl

theorem qexec_ite (o : Oracle) (cfg : SeqCfg) (x : PyVal) (st : QSt) (c : QExp) (t e : List QStmt) :
    QStmt.exec o cfg x st (.ite c t e) =
      (match c.eval o cfg x st with
       | .error err => .error err
       | .ok (d, st) =>
         match qtruthy d with
         | none => .error (.stuck "truth value", st.tr)
         | some true => QStmt.execL o cfg x st t
         | some false => QStmt.execL o cfg x st e) := by
  simp only [QStmt.exec]
  rfl

theorem qexec_assign (o : Oracle) (cfg : SeqCfg) (x : PyVal) (st : QSt) (v : QVar) (e : QExp) :
    QStmt.exec o cfg x st (.assign v e) =
      (match e.eval o cfg x st with
       | .error err => .error err
       | .ok (d, st) => .ok (.next { st with env := st.env.set v d })) := by
  simp only [QStmt.exec]
  rfl

theorem qexec_ite_pure (o : Oracle) (cfg : SeqCfg) (x : PyVal) (st : QSt) (c : QExp) (t e : List QStmt) (d : QV) (b : Bool)
    (hc : c.eval o cfg x st = .ok (d, st)) (hb : qtruthy d = some b) :
    QStmt.exec o cfg x st (.ite c t e) = QStmt.execL o cfg x st (if b then t else e) := by
  rw [qexec_ite, hc]
  simp only [hb]
  cases b <;> rfl

theorem qeval_selfAttr (o : Oracle) (cfg : SeqCfg) (x : PyVal) (st : QSt) (a : QSelf) (r : QV) (h : qselfAttr cfg a = some r) :
    (QExp.selfAttr a).eval o cfg x st = .ok (r, st) := by
  simp only [QExp.eval, h]

/-- `predicate_errors` holds the predicate objects `qs`; the freshly assigned `[]` is `.payloads []`, not `.preds []` (an empty
    Python list has no element type), hence the second case -/
def QIsErrs (v : QV) (qs : List Pred) : Prop := v = .preds qs ∨ (qs = [] ∧ v = .payloads [])

theorem qisErrs_truthy {v : QV} {qs : List Pred} (h : QIsErrs v qs) : qtruthy v = some (!qs.isEmpty) := by
  rcases h with rfl | ⟨rfl, rfl⟩ <;> rfl

theorem qget_set_pred (e : QEnv) (d : QV) (w : QVar) (h : w ≠ .pred) : (e.set .pred d).get w = e.get w := by
  cases w <;> first | rfl | exact absurd rfl h

theorem qeval_notCall (o : Oracle) (cfg : SeqCfg) (x : PyVal) (st : QSt) (p : Pred) (z : PyVal)
    (h1 : st.env.pred = .pred p) (h2 : st.env.coercedVal = .py z) :
    (QExp.not (.call1 (.var .pred) (.var .coercedVal))).eval o cfg x st =
      (match p.k.call z with
       | .ok b => .ok (.bool (!b), { st with tr := st.tr ++ p.ev })
       | .error e => .error (.exn e, st.tr ++ p.ev)) := by
  simp only [QExp.eval, QEnv.get, h1, h2]
  cases p.k.call z <;> rfl

theorem qfilterMap_preds (ps : List Pred) :
    (ps.map QV.pred).filterMap (fun d => match d with | .pred p => some p | .apred p => some p | _ => Option.none) = ps := by
  induction ps with
  | nil => rfl
  | cons p ps ih => rw [List.map_cons, List.filterMap_cons, ih]

theorem qSyncComp_eval (o : Oracle) (cfg : SeqCfg) (x : PyVal) (ps : List Pred) (hps : cfg.preds = some ps)
    (st : QSt) (z : PyVal) (hz : st.env.coercedVal = .py z) :
    (∀ f t e, runPreds ps z = (f, t, some e) → qSyncComp.eval o cfg x st = .error (.exn e, st.tr ++ t)) ∧
    (∀ f t, runPreds ps z = (f, t, none) →
      f = (failingPreds ps z).map (·.pid) ∧
      ∃ st', qSyncComp.eval o cfg x st = .ok (.preds (failingPreds ps z), st') ∧ st'.tr = st.tr ++ t ∧
        ∀ w, w ≠ .pred → st'.env.get w = st.env.get w) := by
  have hunf : qSyncComp.eval o cfg x st =
      (match qcompFold (fun st => (QExp.not (.call1 (.var .pred) (.var .coercedVal))).eval o cfg x st)
          (fun st => (QExp.var .pred).eval o cfg x st) .pred (ps.map QV.pred) (.ok ([], st)) with
       | .error err => .error err
       | .ok (kept, st) =>
         let qs := kept.filterMap (fun d => match d with | .pred p => some p | .apred p => some p | _ => Option.none)
         if qs.length = kept.length then .ok (.preds qs, st) else .error (.stuck "comprehension element", st.tr)) := by
    rw [qSyncComp, QExp.eval, qeval_selfAttr o cfg x st .predicates (.preds ps) (by rw [qselfAttr, hps]; rfl)]
    rfl
  obtain ⟨c1, c2⟩ := predLoop_spec z Pred.ev (fun ps => runPreds ps z) rfl (fun _ _ => rfl)
    (fun ps (s : List QV × QSt) => qcompFold (fun st => (QExp.not (.call1 (.var .pred) (.var .coercedVal))).eval o cfg x st)
      (fun st => (QExp.var .pred).eval o cfg x st) .pred (ps.map QV.pred) (.ok s))
    (fun s => s.2.tr) (fun s qs => s.1 = qs.map QV.pred ∧ ∀ w, w ≠ .pred → s.2.env.get w = st.env.get w)
    .ok (fun e t => .error (.exn e, t)) (fun _ => rfl)
    (by
      rintro p ps ⟨kept, s⟩ qs ⟨hk, hfr⟩
      have hk : kept = qs.map QV.pred := hk
      have hc := qeval_notCall o cfg x { s with env := s.env.set .pred (.pred p) } p z rfl
        ((hfr .coercedVal (by decide)).trans hz)
      simp only [List.map_cons, qcompFold, hc]
      refine ⟨fun e he => by rw [he], fun b hb => ?_⟩
      have hfr' : ∀ w, w ≠ .pred → (s.env.set .pred (.pred p)).get w = st.env.get w :=
        fun w hw => (qget_set_pred s.env _ w hw).trans (hfr w hw)
      rw [hb]
      cases b
      · exact ⟨(kept ++ [.pred p], { env := s.env.set .pred (.pred p), tr := s.tr ++ p.ev }), rfl, rfl,
          by show kept ++ [QV.pred p] = List.map QV.pred (qs ++ [p]); rw [hk, List.map_append]; rfl, hfr'⟩
      · exact ⟨(kept, { env := s.env.set .pred (.pred p), tr := s.tr ++ p.ev }), rfl, rfl, hk, hfr'⟩)
    ps ([], st) [] ⟨rfl, fun _ _ => rfl⟩
  rw [hunf]
  refine ⟨fun f t e h => by rw [c1 f t e h], fun f t h => ?_⟩
  obtain ⟨hf, ⟨kept, st'⟩, h1, h2, hk, hfr⟩ := c2 f t h
  refine ⟨hf, st', ?_, h2, hfr⟩
  rw [h1]
  simp only [List.nil_append] at hk
  simp only [hk, qfilterMap_preds, List.length_map, if_true]

/-- what the proofs need of the variable the failed predicates are collected in, whichever of the two it is -/
theorem qerrVar (ev : QVar) (hev : ev = .predicateErrors ∨ ev = .listErrors) :
    (∀ (e : QEnv) d, (e.set ev d).get ev = d) ∧ (∀ (e : QEnv) d, (e.set ev d).coercedVal = e.coercedVal) ∧
    (∀ (e : QEnv) d, (e.set .predAsync d).get ev = e.get ev) ∧ ev ≠ .pred := by
  rcases hev with rfl | rfl <;> exact ⟨fun _ _ => rfl, fun _ _ => rfl, fun _ _ => rfl, by decide⟩

/-- `if not await pred_async.validate_async(coerced_val): <ev>.append(pred_async)` -/
theorem qAsyncBody_exec (o : Oracle) (cfg : SeqCfg) (x : PyVal) (ev : QVar) (st : QSt) (p : Pred) (z : PyVal) (qs : List Pred)
    (hp : st.env.predAsync = .apred p) (hz : st.env.coercedVal = .py z) (hq : QIsErrs (st.env.get ev) qs) :
    QStmt.execL o cfg x st (qAsyncBody ev) =
      (match p.k.call z with
       | .error e => .error (.exn e, st.tr ++ [.apred p.pid])
       | .ok true => .ok (.next { st with tr := st.tr ++ [.apred p.pid] })
       | .ok false => .ok (.next { env := st.env.set ev (.preds (qs ++ [p])), tr := st.tr ++ [.apred p.pid] })) := by
  rw [qAsyncBody, qexecL_single, qexec_ite]
  simp only [QExp.eval, QEnv.get, hp, hz]
  cases p.k.call z with
  | error e => rfl
  | ok b =>
    cases b with
    | true => rfl
    | false =>
      simp only [qtruthy, Bool.not_false, qexecL_single, QStmt.exec, QExp.eval]
      have hp' : st.env.get .predAsync = .apred p := hp
      rcases hq with hq | ⟨rfl, hq⟩ <;> rw [hq, hp'] <;> rfl

theorem qforFold_apreds (o : Oracle) (cfg : SeqCfg) (x : PyVal) (ev : QVar) (hev : ev = .predicateErrors ∨ ev = .listErrors)
    (aps : List Pred) (st : QSt) (z : PyVal) (qs : List Pred) (hz : st.env.coercedVal = .py z) (hq : QIsErrs (st.env.get ev) qs) :
    (∀ f t e, runAPreds aps z = (f, t, some e) →
      qforFold (fun st => QStmt.execL o cfg x st (qAsyncBody ev)) .predAsync (aps.map QV.apred) st = .error (.exn e, st.tr ++ t)) ∧
    (∀ f t, runAPreds aps z = (f, t, none) →
      f = (failingPreds aps z).map (·.pid) ∧
      ∃ st', qforFold (fun st => QStmt.execL o cfg x st (qAsyncBody ev)) .predAsync (aps.map QV.apred) st = .ok (.next st') ∧
        st'.tr = st.tr ++ t ∧ st'.env.coercedVal = .py z ∧ QIsErrs (st'.env.get ev) (qs ++ failingPreds aps z)) := by
  obtain ⟨v1, v2, v3, _⟩ := qerrVar ev hev
  exact predLoop_spec z (fun p => [.apred p.pid]) (fun ps => runAPreds ps z) rfl (fun _ _ => rfl)
    (fun ps st => qforFold (fun st => QStmt.execL o cfg x st (qAsyncBody ev)) .predAsync (ps.map QV.apred) st)
    (·.tr) (fun st qs => st.env.coercedVal = .py z ∧ QIsErrs (st.env.get ev) qs)
    (fun st => .ok (.next st)) (fun e t => .error (.exn e, t)) (fun _ => rfl)
    (by
      rintro p ps st qs ⟨hz, hq⟩
      simp only [List.map_cons, qforFold]
      rw [qAsyncBody_exec o cfg x ev { env := st.env.set .predAsync (.apred p), tr := st.tr } p z qs rfl hz (by rw [v3]; exact hq)]
      refine ⟨fun e he => by rw [he], fun b hb => ?_⟩
      rw [hb]
      cases b
      · exact ⟨_, rfl, rfl, (v2 _ _).trans hz, .inl (v1 _ _)⟩
      · exact ⟨_, rfl, rfl, hz, by rw [v3]; exact hq⟩)
    aps st qs ⟨hz, hq⟩

theorem qExtend_exec (o : Oracle) (cfg : SeqCfg) (x : PyVal) (ev : QVar) (hev : ev = .predicateErrors ∨ ev = .listErrors)
    (ps : List Pred) (hps : cfg.preds = some ps) (st : QSt) (y : PyVal) (qs : List Pred)
    (hy : st.env.coercedVal = .py y) (hq : QIsErrs (st.env.get ev) qs) :
    (∀ f t e, runPreds ps y = (f, t, some e) → QStmt.exec o cfg x st (.extend ev qSyncComp) = .error (.exn e, st.tr ++ t)) ∧
    (∀ f t, runPreds ps y = (f, t, none) →
      f = (failingPreds ps y).map (·.pid) ∧
      ∃ st', QStmt.exec o cfg x st (.extend ev qSyncComp) = .ok (.next st') ∧
        st'.tr = st.tr ++ t ∧ st'.env.coercedVal = .py y ∧ QIsErrs (st'.env.get ev) (qs ++ failingPreds ps y)) := by
  obtain ⟨v1, v2, _, hne⟩ := qerrVar ev hev
  obtain ⟨c1, c2⟩ := qSyncComp_eval o cfg x ps hps st y hy
  refine ⟨fun f t e h => by simp only [QStmt.exec, c1 f t e h], fun f t h => ?_⟩
  obtain ⟨hf, st', h1, h2, hfr⟩ := c2 f t h
  rw [← hfr ev hne] at hq
  refine ⟨hf, { st' with env := st'.env.set ev (.preds (qs ++ failingPreds ps y)) }, ?_, h2,
    (v2 _ _).trans ((hfr .coercedVal (by decide)).trans hy), .inl (v1 _ _)⟩
  simp only [QStmt.exec, h1]
  rcases hq with hq | ⟨rfl, hq⟩ <;> rw [hq] <;> rfl

theorem qexec_ifPreds (o : Oracle) (cfg : SeqCfg) (x : PyVal) (st : QSt) (t : List QStmt) :
    QStmt.exec o cfg x st (.ite (.selfAttr .predicates) t []) =
      if cfg.preds.getD [] = [] then .ok (.next st) else QStmt.execL o cfg x st t := by
  have hite := qexec_ite_pure o cfg x st (.selfAttr .predicates) t [] (qoptList .preds cfg.preds)
    (b := !(cfg.preds.getD []).isEmpty) (qeval_selfAttr o cfg x st .predicates _ rfl) (by cases cfg.preds <;> rfl)
  rw [hite]
  cases h : cfg.preds.getD [] <;> rfl

theorem qSyncInto_exec (o : Oracle) (cfg : SeqCfg) (x : PyVal) (ev : QVar) (hev : ev = .predicateErrors ∨ ev = .listErrors)
    (st : QSt) (y : PyVal) (qs : List Pred) (hy : st.env.coercedVal = .py y) (hq : QIsErrs (st.env.get ev) qs) :
    (∀ f t e, runPreds (cfg.preds.getD []) y = (f, t, some e) →
      QStmt.exec o cfg x st (.ite (.selfAttr .predicates) [.extend ev qSyncComp] []) = .error (.exn e, st.tr ++ t)) ∧
    (∀ f t, runPreds (cfg.preds.getD []) y = (f, t, none) →
      f = (failingPreds (cfg.preds.getD []) y).map (·.pid) ∧
      ∃ st', QStmt.exec o cfg x st (.ite (.selfAttr .predicates) [.extend ev qSyncComp] []) = .ok (.next st') ∧
        st'.tr = st.tr ++ t ∧ st'.env.coercedVal = .py y ∧
        QIsErrs (st'.env.get ev) (qs ++ failingPreds (cfg.preds.getD []) y)) := by
  rw [qexec_ifPreds]
  by_cases h0 : cfg.preds.getD [] = []
  · rw [if_pos h0, h0]
    refine ⟨fun f t e h => by simp [runPreds] at h, fun f t h => ?_⟩
    simp only [runPreds, Prod.mk.injEq] at h
    obtain ⟨rfl, rfl, _⟩ := h
    exact ⟨rfl, st, rfl, (List.append_nil _).symm, hy, by rw [failingPreds_nil, List.append_nil]; exact hq⟩
  · rw [if_neg h0, qexecL_single]
    exact qExtend_exec o cfg x ev hev _ (getD_eq_some _ h0) st y qs hy hq

/-- either test runs the loop over the configured list: with an empty list neither does anything -/
theorem qexec_ifApredsFor (o : Oracle) (cfg : SeqCfg) (x : PyVal) (st : QSt) (notNone : Bool) (body : List QStmt) :
    QStmt.exec o cfg x st (.ite (if notNone then .isNotNone (.selfAttr .predicatesAsync) else .selfAttr .predicatesAsync)
        [.forIn .predAsync (.selfAttr .predicatesAsync) body] []) =
      qforFold (fun st => QStmt.execL o cfg x st body) .predAsync ((cfg.apreds.getD []).map QV.apred) st := by
  rw [qexec_ite]
  rcases h : cfg.apreds with _ | l
  · cases notNone <;> simp only [QExp.eval, qselfAttr, h, qoptList, qtruthy, qexecL_nil, if_true, Bool.false_eq_true, if_false] <;> rfl
  · cases notNone
    · cases l <;>
        simp only [QExp.eval, qselfAttr, h, qoptList, qtruthy, qexecL_nil, qexecL_single, QStmt.exec, Bool.false_eq_true, if_false,
          List.isEmpty_nil, List.isEmpty_cons, Bool.not_true, Bool.not_false] <;> rfl
    · simp only [QExp.eval, qselfAttr, h, qoptList, qtruthy, qexecL_single, QStmt.exec, if_true]; rfl

theorem qErrsCheck_exec (o : Oracle) (cfg : SeqCfg) (x : PyVal) (ev : QVar) (st : QSt) (y : PyVal) (qs : List Pred)
    (hy : st.env.coercedVal = .py y) (hq : QIsErrs (st.env.get ev) qs) :
    QStmt.exec o cfg x st (.ite (.var ev)
        [.ret (.pair (.bool false) (.mkInvalid (.mkPredErrs (.var ev)) (.var .coercedVal) .self))] []) =
      if qs = [] then .ok (.next st)
      else .ok (.returned (.pair (.bool false) (.invalid (.mk (.preds (qs.map (·.pid))) y cfg.vid []))) st) := by
  rw [qexec_ite_pure o cfg x st _ _ _ _ _ rfl (qisErrs_truthy hq)]
  cases qs with
  | nil => rfl
  | cons q qs' =>
    have hcv : st.env.get .coercedVal = .py y := hy
    simp only [List.isEmpty_cons, Bool.not_false, if_true, reduceCtorEq, if_false, qexecL_single, QStmt.exec, QExp.eval,
      hq.elim id (fun h => absurd h.1 (List.cons_ne_nil _ _)), hcv]

def QPredsStage (o : Oracle) (cfg : SeqCfg) (x : PyVal) (m : Mode) (stage : List QStmt) : Prop :=
  ∀ (st : QSt) (y : PyVal) (rest : List QStmt), st.env.coercedVal = .py y →
    PredsStage (outQ cfg) (fun st' => QStmt.execL o cfg x st' rest) (fun st' t => st'.env.coercedVal = .py y ∧ st'.tr = st.tr ++ t)
      y cfg.vid st.tr (contPreds m (cfg.preds.getD []) (cfg.apreds.getD []) y) (QStmt.execL o cfg x st (stage ++ rest))

theorem qAsyncPreds_exec (o : Oracle) (cfg : SeqCfg) (x : PyVal) (ev : QVar) (hev : ev = .predicateErrors ∨ ev = .listErrors)
    (notNone : Bool) : QPredsStage o cfg x .async (qAsyncPreds ev notNone) := by
  intro st y rest hy
  obtain ⟨v1, v2, _, _⟩ := qerrVar ev hev
  -- the run is computed once, in `hR`; the three statements about it are split only at the end
  obtain ⟨R, hR⟩ : ∃ R, QStmt.execL o cfg x st (qAsyncPreds ev notNone ++ rest) = R := ⟨_, rfl⟩
  rw [hR, contPreds_async]
  rw [qAsyncPreds, List.cons_append, qexecL_cons, qexec_assign, List.cons_append] at hR
  simp only [QExp.eval, qexecL_cons] at hR
  obtain ⟨s1, s2⟩ := qSyncInto_exec o cfg x ev hev { st with env := st.env.set ev (.payloads []) } y []
    ((v2 _ _).trans hy) (.inr ⟨rfl, v1 _ _⟩)
  rcases hr : runPreds (cfg.preds.getD []) y with ⟨f1, t1, _ | e1⟩
  · obtain ⟨hf1, st1, hs1, ht1, hy1, hq1⟩ := s2 f1 t1 hr
    rw [hs1] at hR
    simp only [List.cons_append, qexecL_cons, qexec_ifApredsFor] at hR
    obtain ⟨a1, a2⟩ := qforFold_apreds o cfg x ev hev (cfg.apreds.getD []) st1 y _ hy1 hq1
    rcases hra : runAPreds (cfg.apreds.getD []) y with ⟨f2, t2, _ | e2⟩
    · obtain ⟨hf2, st2, hs2, ht2, hy2, hq2⟩ := a2 f2 t2 hra
      have htr : st2.tr = st.tr ++ (t1 ++ t2) := by rw [ht2, ht1, List.append_assoc]
      rw [hs2] at hR
      simp only [qErrsCheck_exec o cfg x ev st2 y _ hy2 hq2, List.nil_append] at hR
      exact .of_checked _ (t1 ++ t2) st2
        (by rw [hf1, hf2, List.map_append]) (fun h => by rw [← hR, if_pos h]) (fun h => by rw [← hR, if_neg h, ← htr]; rfl)
        ⟨hy2, htr⟩
    · rw [a1 f2 t2 e2 hra, ht1, List.append_assoc] at hR
      exact .of_raised (by rw [← hR]; rfl)
  · rw [s1 f1 t1 e1 hr] at hR
    exact .of_raised (by rw [← hR]; rfl)

theorem qAsyncPreds_exec_pe (o : Oracle) (cfg : SeqCfg) (x : PyVal) :
    QPredsStage o cfg x .async (qAsyncPreds .predicateErrors true) :=
  qAsyncPreds_exec o cfg x .predicateErrors (.inl rfl) true

theorem qAsyncPreds_exec_le (o : Oracle) (cfg : SeqCfg) (x : PyVal) :
    QPredsStage o cfg x .async (qAsyncPreds .listErrors false) :=
  qAsyncPreds_exec o cfg x .listErrors (.inr rfl) false

theorem qPredsSync_exec (o : Oracle) (cfg : SeqCfg) (x : PyVal) : QPredsStage o cfg x .sync [qPredsSync] := by
  intro st y rest hy
  obtain ⟨R, hR⟩ : ∃ R, QStmt.execL o cfg x st ([qPredsSync] ++ rest) = R := ⟨_, rfl⟩
  rw [hR, contPreds_sync]
  rw [List.singleton_append, qexecL_cons, qPredsSync, qexec_ifPreds] at hR
  by_cases h0 : cfg.preds.getD [] = []
  · rw [if_pos h0] at hR
    rw [h0]
    exact .of_checked [] [] st rfl (fun _ => hR.symm)
      (fun h => absurd rfl h) ⟨hy, (List.append_nil _).symm⟩
  · obtain ⟨c1, c2⟩ := qSyncComp_eval o cfg x _ (getD_eq_some _ h0) st y hy
    rw [if_neg h0, qexecL_cons, qexec_assign] at hR
    rcases hr : runPreds (cfg.preds.getD []) y with ⟨f1, t1, _ | e1⟩
    · obtain ⟨hf, st', h1, h2, hfr⟩ := c2 f1 t1 hr
      have hcv := (hfr .coercedVal (by decide)).trans hy
      rw [h1] at hR
      simp only [qexecL_single, qErrsCheck_exec o cfg x .listErrors
        { env := st'.env.set .listErrors (.preds (failingPreds (cfg.preds.getD []) y)), tr := st'.tr } y _ hcv (.inl rfl)] at hR
      exact .of_checked _ t1
        { env := st'.env.set .listErrors (.preds (failingPreds (cfg.preds.getD []) y)), tr := st'.tr } hf
        (fun h => by rw [← hR, if_pos h]) (fun h => by rw [← hR, if_neg h, ← h2]; rfl) ⟨hcv, h2⟩
    · rw [c1 f1 t1 e1 hr] at hR
      exact .of_raised (by rw [← hR]; rfl)

theorem qGuard_exec (o : Oracle) (cfg : SeqCfg) (x : PyVal) (st : QSt) (rest : List QStmt) :
    QStmt.execL o cfg x st (qGuard :: rest) =
      (if (cfg.apreds.getD []) ≠ [] then .error (.exn .assertion, st.tr) else QStmt.execL o cfg x st rest) := by
  rw [qexecL_cons, qGuard, qexec_ite_pure o cfg x st (.selfAttr .predicatesAsync) _ [] (qoptList .apreds cfg.apreds)
    (!(cfg.apreds.getD []).isEmpty) (qeval_selfAttr o cfg x st .predicatesAsync _ rfl) (by cases cfg.apreds <;> rfl)]
  cases cfg.apreds.getD [] with
  | nil => rfl
  | cons a l =>
    simp only [List.isEmpty_cons, Bool.not_false, if_true, ne_eq, reduceCtorEq, not_false_eq_true, qexecL_single, QStmt.exec,
      QExp.eval, qselfAttr]

theorem tyExp_eval (o : Oracle) (cfg : SeqCfg) (x : PyVal) (st : QSt) (k : SeqKind) :
    (tyExp k.gateTy).eval o cfg x st = .ok (.tyName k.gateTy, st) ∧ (tyExp k.destTy).eval o cfg x st = .ok (.tyName k.destTy, st) := by
  cases k <;> exact ⟨rfl, rfl⟩

theorem qGate_exec (o : Oracle) (cfg : SeqCfg) (x : PyVal) (st : QSt) (rest : List QStmt) :
    GateStage (outQ cfg) (fun st' => QStmt.execL o cfg x st' rest) (fun st' y t => st'.env.coercedVal = .py y ∧ st'.tr = st.tr ++ t)
      x cfg.vid st.tr (gate o cfg.kind.gateTy cfg.kind.destTy cfg.coerce x) (QStmt.execL o cfg x st (qGate cfg.kind :: rest)) := by
  have hgt := fun st1 => (tyExp_eval o cfg x st1 cfg.kind).1
  have hdt := fun st1 => (tyExp_eval o cfg x st1 cfg.kind).2
  rw [qexecL_cons, qGate]
  cases hc : cfg.coerce with
  | none =>
    rw [qexec_ite_pure o cfg x st _ _ _ .none false (qeval_selfAttr o cfg x st .coerce _ (by rw [qselfAttr, hc])) rfl]
    have hcond : (QExp.typeIs .val (tyExp cfg.kind.gateTy)).eval o cfg x st = .ok (.bool (x.ty == cfg.kind.gateTy), st) := by
      simp only [QExp.eval, hgt]
    simp only [Bool.false_eq_true, if_false, qexecL_single, gate]
    rw [qexec_ite_pure o cfg x st _ _ _ _ _ hcond rfl]
    by_cases hty : x.ty = cfg.kind.gateTy
    · rw [if_pos hty, beq_iff_eq.mpr hty]
      exact .of_acc ⟨{ st with env := st.env.set .coercedVal (.py x) }, rfl, rfl, (List.append_nil _).symm⟩
    · rw [if_neg hty, beq_eq_false_iff_ne.mpr hty]
      refine .of_rej ?_
      simp only [Bool.false_eq_true, if_false, qexecL_single, QStmt.exec, QExp.eval, hgt, List.append_nil]
      rfl
  | some c =>
    have hsa : qselfAttr cfg .coerce = some (.coercer c) := by rw [qselfAttr, hc]
    rw [qexec_ite_pure o cfg x st _ _ _ _ true (qeval_selfAttr o cfg x st .coerce _ hsa) rfl]
    have hcond : (QExp.not (.attr (.walrus .coerced (.call1 (.selfAttr .coerce) .val)) .isJust)).eval o cfg x st =
        .ok (.bool (!(callSeqCoercer o cfg.kind c x).1.isSome),
          { env := st.env.set .coerced (.maybe (callSeqCoercer o cfg.kind c x).1), tr := st.tr ++ (callSeqCoercer o cfg.kind c x).2 }) := by
      simp only [QExp.eval, hsa, qtruthy]
    simp only [if_true, qexecL_single, gate]
    rw [qexec_ite, hcond]
    rcases callCoercer_cases o cfg.kind.gateTy cfg.kind.destTy c x (callSeqCoercer o cfg.kind c x) (seqCompat cfg.kind c) rfl
        (by cases c <;> rfl) with ⟨y, t, hg, hcc⟩ | ⟨t, hg, hcc⟩ <;> rw [hg, hcc]
    · exact .of_acc ⟨{ env := (st.env.set .coerced (.maybe (some y))).set .coercedVal (.py y), tr := st.tr ++ t }, rfl, rfl, rfl⟩
    · refine .of_rej ?_
      simp only [Option.isSome_none, Bool.not_false, qtruthy, qexecL_single, QStmt.exec, QExp.eval, hsa, hdt]
      rfl

/-- a set's payloads are in `return_set`, a tuple's in the list `return_list` -/
def qPayloads : SeqKind → List PyVal → QV
  | .set, ws => .setPayloads ws
  | _, ws => .payloads ws

/-- a tuple's errors are in a dict under their index, a set's in a list (an empty Python list has no element type) -/
def qErrs : SeqKind → List (Nat × Inv) → QV
  | .set, [] => .payloads []
  | .set, ie => .invs (ie.map Prod.snd)
  | _, ie => .idxErrs ie

structure QInv (k : SeqKind) (st : QSt) (rl : List PyVal) (ie : List (Nat × Inv)) (cv : QV) : Prop where
  rl : st.env.returnList = qPayloads k rl
  ie : st.env.indexErrs = qErrs k ie
  cv : st.env.coercedVal = cv

theorem qeval_callItem (o : Oracle) (cfg : SeqCfg) (x : PyVal) (st : QSt) (aw : Bool) (y : PyVal) (hy : st.env.item = .py y) :
    (cfg.isTuple = true →
      (if aw then QExp.await (.meth (.selfAttr .itemValidator) .validateToTupleAsync (.var .item))
       else .meth (.selfAttr .itemValidator) .validateToTuple (.var .item)).eval o cfg x st = callItem cfg y st true) ∧
    (if aw then QExp.await (.meth (.selfAttr .itemValidator) .validateAsync (.var .item))
     else .call1 (.selfAttr .itemValidator) (.var .item)).eval o cfg x st = callItem cfg y st false := by
  have hy' : st.env.get .item = .py y := hy
  refine ⟨fun hT => ?_, ?_⟩ <;> cases aw <;> simp only [QExp.eval, qselfAttr, if_true, Bool.false_eq_true, if_false, *]

/-- The verdict ends up in `is_valid, item_result`, an `Invalid` as such or as the result object it came in.  States are
    written as record updates of `st.env`: their fields reduce at once, whereas through a chain of `QEnv.set` a fact about
    `st.env` is compared field by field at every level, which is slow to check. -/
theorem qDispatch_exec (o : Oracle) (cfg : SeqCfg) (x : PyVal) (aw : Bool) (st : QSt) (y : PyVal) (hy : st.env.item = .py y) :
    match cfg.item y with
    | none => QStmt.exec o cfg x st (qDispatch aw) = .error (.diverge, st.tr)
    | some (.raised e, t) => QStmt.exec o cfg x st (qDispatch aw) = .error (.exn e, st.tr ++ t)
    | some (.valid w, t) => ∃ r, QStmt.exec o cfg x st (qDispatch aw) =
        .ok (.next ⟨{ st.env with isValid := .bool true, itemResult := .py w, result := r }, st.tr ++ t⟩)
    | some (.invalid e, t) => ∃ r d, (d = .invalid e ∨ d = .resObj (.invalid e)) ∧ QStmt.exec o cfg x st (qDispatch aw) =
        .ok (.next ⟨{ st.env with isValid := .bool false, itemResult := d, result := r }, st.tr ++ t⟩) := by
  obtain ⟨ht, hp⟩ := qeval_callItem o cfg x st aw y hy
  rw [qDispatch, qexec_ite_pure o cfg x st _ _ _ _ cfg.isTuple (qeval_selfAttr o cfg x st .itemIsTuple _ rfl) rfl]
  cases hT : cfg.isTuple
  · simp only [Bool.false_eq_true, if_false, qexecL_cons, qexecL_nil, qexec_assign, hp, callItem]
    rcases cfg.item y with _ | ⟨_ | _ | _, t⟩ <;> simp only [QStmt.exec, QExp.eval, QEnv.get, QEnv.set, qtruthy]
    · exact ⟨_, rfl⟩
    · exact ⟨_, _, .inr rfl, rfl⟩
  · simp only [if_true, qexecL_single, QStmt.exec, ht hT, callItem]
    rcases cfg.item y with _ | ⟨_ | _ | _, t⟩ <;> simp only [QEnv.set]
    · exact ⟨_, rfl⟩
    · exact ⟨_, _, .inl rfl, rfl⟩

theorem qErrs_set_snoc (ie : List (Nat × Inv)) (n : Nat) (e : Inv) :
    qErrs .set (ie ++ [(n, e)]) = .invs (ie.map Prod.snd ++ [e]) := by
  cases ie <;> simp [qErrs]

theorem qFile_valid (o : Oracle) (cfg : SeqCfg) (x : PyVal) (k : SeqKind)
    (st : QSt) (w : PyVal) (rl : List PyVal) (ie : List (Nat × Inv))
    (hv : st.env.isValid = .bool true) (hr : st.env.itemResult = .py w)
    (hrl : st.env.returnList = qPayloads k rl) (hie : st.env.indexErrs = qErrs k ie) :
    QStmt.exec o cfg x st (qFile k) =
      if (k == .set && ie.isEmpty && !hashable w) = true then .error (.exn .typeError, st.tr)
      else .ok (.next (if ie.isEmpty then { st with env := { st.env with returnList := qPayloads k (rl ++ [w]) } } else st)) := by
  have hv' : st.env.get .isValid = .bool true := hv
  have hr' : st.env.get .itemResult = .py w := hr
  have hrl' : st.env.get .returnList = qPayloads k rl := hrl
  have hie' : st.env.get .indexErrs = qErrs k ie := hie
  cases k <;> cases ie <;>
    simp only [qFile, qexec_ite, QExp.eval, hv', hie', hrl', hr', qErrs, qPayloads, qtruthy, qexecL_single, qexecL_nil, QStmt.exec,
      List.isEmpty_nil, List.isEmpty_cons, List.map_cons, Bool.not_true, Bool.not_false, Bool.and_true, Bool.and_false, Bool.true_and,
      Bool.false_and, Bool.false_eq_true, if_true, if_false, beq_self_eq_true, Bool.not_eq_true']
  case set.nil => cases hashable w <;> rfl
  all_goals rfl

theorem qFile_invalid (o : Oracle) (cfg : SeqCfg) (x : PyVal) (k : SeqKind)
    (st : QSt) (n : Nat) (e : Inv) (ie : List (Nat × Inv))
    (hv : st.env.isValid = .bool false) (hr : st.env.itemResult = .invalid e ∨ st.env.itemResult = .resObj (.invalid e))
    (hi : st.env.i = .nat n) (hie : st.env.indexErrs = qErrs k ie) :
    QStmt.exec o cfg x st (qFile k) = .ok (.next { st with env := { st.env with indexErrs := qErrs k (ie ++ [(n, e)]) } }) := by
  have hv' : st.env.get .isValid = .bool false := hv
  have hi' : st.env.get .i = .nat n := hi
  have hie' : st.env.get .indexErrs = qErrs k ie := hie
  cases k with
  | set =>
    rw [qErrs_set_snoc]
    rcases hr with hr | hr <;> cases ie <;>
      simp only [qFile, qexec_ite, QExp.eval, hv', hie', (show st.env.get .itemResult = _ from hr), qErrs, qtruthy, qexecL_single,
        QStmt.exec, Bool.not_false, List.map_nil, List.map_cons, List.nil_append] <;> rfl
  | _ =>
    rcases hr with hr | hr <;>
      simp only [qFile, qexec_ite, QExp.eval, hv', hi', hie', (show st.env.get .itemResult = _ from hr), qErrs, qtruthy, qexecL_single,
        QStmt.exec, Bool.not_false] <;> rfl

/-- what `qLoopBody_exec` proves of the loop body; `qforFold2_items` takes the same text, written out, as its hypothesis `Hb` -/
def QRound (cfg : SeqCfg) (hashReq : Bool) (I : QSt → List PyVal → List (Nat × Inv) → QV → Prop)
    (execBody : QSt → Except (QErr × List Ev) QFlow) : Prop :=
  ∀ (st : QSt) (n : Nat) (y : PyVal) (rl : List PyVal) (ie : List (Nat × Inv)) (cv : QV),
    st.env.i = .nat n → st.env.item = .py y → I st rl ie cv →
    (cfg.item y = none → ∃ t, execBody st = .error (.diverge, t)) ∧
    (∀ e t, cfg.item y = some (.raised e, t) → execBody st = .error (.exn e, st.tr ++ t)) ∧
    (∀ w t, cfg.item y = some (.valid w, t) →
      if (hashReq && ie.isEmpty && !hashable w) = true then execBody st = .error (.exn .typeError, st.tr ++ t)
      else ∃ st1, execBody st = .ok (.next st1) ∧ I st1 (if ie.isEmpty then rl ++ [w] else rl) ie cv ∧ st1.tr = st.tr ++ t) ∧
    (∀ e t, cfg.item y = some (.invalid e, t) →
      ∃ st1, execBody st = .ok (.next st1) ∧ I st1 rl (ie ++ [(n, e)]) cv ∧ st1.tr = st.tr ++ t)

theorem qLoopBody_exec (o : Oracle) (cfg : SeqCfg) (x : PyVal) (k : SeqKind) (aw : Bool) :
    QRound cfg (k == .set) (QInv k) (fun st => QStmt.execL o cfg x st (qLoopBody k aw)) := by
  intro st n y rl ie cv hi hy hinv
  have hd := qDispatch_exec o cfg x aw st y hy
  simp only [qLoopBody, qexecL_cons]
  refine ⟨fun h => ?_, fun e t h => ?_, fun w t h => ?_, fun e t h => ?_⟩ <;> simp only [h] at hd
  · exact ⟨st.tr, by rw [hd]⟩
  · rw [hd]
  · obtain ⟨r, hd⟩ := hd
    rw [hd]
    simp only [qFile_valid o cfg x k
      ⟨{ st.env with isValid := .bool true, itemResult := .py w, result := r }, st.tr ++ t⟩ w rl ie rfl rfl hinv.rl hinv.ie]
    by_cases hh : (k == .set && ie.isEmpty && !hashable w) = true
    · rw [if_pos hh, if_pos hh]
    · rw [if_neg hh, if_neg hh]
      cases ie with
      | nil => rw [List.isEmpty_nil, if_pos rfl, if_pos rfl]; exact ⟨_, rfl, ⟨rfl, hinv.ie, hinv.cv⟩, rfl⟩
      | cons a l =>
        rw [List.isEmpty_cons, if_neg Bool.false_ne_true, if_neg Bool.false_ne_true]
        exact ⟨_, rfl, ⟨hinv.rl, hinv.ie, hinv.cv⟩, rfl⟩
  · obtain ⟨r, d, hr, hd⟩ := hd
    rw [hd]
    simp only [qFile_invalid o cfg x k
      ⟨{ st.env with isValid := .bool false, itemResult := d, result := r }, st.tr ++ t⟩ n e ie rfl hr hi hinv.ie]
    exact ⟨_, rfl, ⟨hinv.rl, rfl, hinv.cv⟩, rfl⟩

theorem qLoopBodySet_exec (o : Oracle) (cfg : SeqCfg) (x : PyVal) (aw : Bool) :
    QRound cfg true (QInv .set) (fun st => QStmt.execL o cfg x st (qLoopBody .set aw)) :=
  qLoopBody_exec o cfg x .set aw

theorem qLoopBodyTup_exec (o : Oracle) (cfg : SeqCfg) (x : PyVal) (aw : Bool) :
    QRound cfg false (QInv .utuple) (fun st => QStmt.execL o cfg x st (qLoopBody .utuple aw)) :=
  qLoopBody_exec o cfg x .utuple aw

theorem qforFold2_items (cfg : SeqCfg) (hashReq : Bool) (I : QSt → List PyVal → List (Nat × Inv) → QV → Prop)
    (hI : ∀ (st : QSt) (rl : List PyVal) (ie : List (Nat × Inv)) (cv : QV) (n : Nat) (y : PyVal), I st rl ie cv →
      I { st with env := (st.env.set .i (.nat n)).set .item (.py y) } rl ie cv)
    (execBody : QSt → Except (QErr × List Ev) QFlow)
    (Hb : ∀ (st : QSt) (n : Nat) (y : PyVal) (rl : List PyVal) (ie : List (Nat × Inv)) (cv : QV),
      st.env.i = .nat n → st.env.item = .py y → I st rl ie cv →
      (cfg.item y = none → ∃ t, execBody st = .error (.diverge, t)) ∧
      (∀ e t, cfg.item y = some (.raised e, t) → execBody st = .error (.exn e, st.tr ++ t)) ∧
      (∀ w t, cfg.item y = some (.valid w, t) →
        if (hashReq && ie.isEmpty && !hashable w) = true then execBody st = .error (.exn .typeError, st.tr ++ t)
        else ∃ st1, execBody st = .ok (.next st1) ∧ I st1 (if ie.isEmpty then rl ++ [w] else rl) ie cv ∧ st1.tr = st.tr ++ t) ∧
      (∀ e t, cfg.item y = some (.invalid e, t) →
        ∃ st1, execBody st = .ok (.next st1) ∧ I st1 rl (ie ++ [(n, e)]) cv ∧ st1.tr = st.tr ++ t)) :
    ∀ (xs : List PyVal) (n : Nat) (st : QSt) (rl : List PyVal) (ie : List (Nat × Inv)) (cv : QV), I st rl ie cv →
      (loopItems cfg.item hashReq xs n ie.isEmpty = none →
        ∃ t, qforFold2 execBody .i .item xs n st = .error (.diverge, t)) ∧
      (∀ r e, loopItems cfg.item hashReq xs n ie.isEmpty = some r → r.r = some e →
        qforFold2 execBody .i .item xs n st = .error (.exn e, st.tr ++ r.t)) ∧
      (∀ r, loopItems cfg.item hashReq xs n ie.isEmpty = some r → r.r = none →
        ∃ st1, qforFold2 execBody .i .item xs n st = .ok (.next st1) ∧ st1.tr = st.tr ++ r.t ∧
          (ie ++ r.es = [] → I st1 (rl ++ r.ws) [] cv) ∧
          (∃ rl', I st1 rl' (ie ++ r.es) cv)) := by
  intro xs n st rl ie cv hinv
  have h := itemsLoop_spec cfg.item hashReq (fun xs n st => qforFold2 execBody .i .item xs n st) (·.tr)
    (fun st rl ie => I st rl ie cv) (fun st => .ok (.next st)) (fun e t => .error (.exn e, t))
    (fun r => ∃ t, r = .error (.diverge, t)) (fun _ _ => rfl)
    (by
      intro y ys n st rl ie h0
      obtain ⟨b1, b2, b3, b4⟩ := Hb { st with env := (st.env.set .i (.nat n)).set .item (.py y) } n y rl ie cv rfl rfl
        (hI st rl ie cv n y h0)
      simp only [qforFold2]
      rcases hc : cfg.item y with _ | ⟨w | e | e, t⟩ <;> simp only
      · obtain ⟨t0, h1⟩ := b1 hc
        exact ⟨t0, by rw [h1]⟩
      · have h3 := b3 w t hc
        by_cases hh : (hashReq && ie.isEmpty && !hashable w) = true
        · rw [if_pos hh] at h3 ⊢; rw [h3]
        · rw [if_neg hh] at h3 ⊢
          obtain ⟨st1, h1, h2⟩ := h3
          exact ⟨st1, by rw [h1], h2⟩
      · obtain ⟨st1, h1, h2⟩ := b4 e t hc
        exact ⟨st1, by rw [h1], h2⟩
      · rw [b2 e t hc])
    xs n st rl ie hinv
  exact loopResult_cases h

theorem qInit_exec (o : Oracle) (cfg : SeqCfg) (x : PyVal) (k : SeqKind) (st : QSt) (rest : List QStmt) :
    QStmt.execL o cfg x st (qInit k ++ rest) =
      QStmt.execL o cfg x { st with env := (st.env.set .returnList (qPayloads k [])).set .indexErrs (qErrs k []) } rest := by
  cases k <;> simp only [qInit, List.cons_append, List.nil_append, qexecL_cons, qexec_assign, QExp.eval] <;> rfl

theorem qLoop_exec (o : Oracle) (cfg : SeqCfg) (x : PyVal) (k : SeqKind) (aw : Bool) (st : QSt) (y : PyVal)
    (hy : st.env.coercedVal = .py y) :
    QStmt.exec o cfg x st (qLoop k aw) =
      (match pyIter y with
       | none => .error (.exn .typeError, st.tr)
       | some xs => qforFold2 (fun st => QStmt.execL o cfg x st (qLoopBody k aw)) .i .item xs 0 st) := by
  have hcv : st.env.get .coercedVal = .py y := hy
  simp only [qLoop, QStmt.exec, QExp.eval, hcv]
  cases pyIter y <;> rfl

theorem qFinal_exec (o : Oracle) (cfg : SeqCfg) (x : PyVal) (k : SeqKind) (hk : k = .set ∨ k = .utuple) (hkc : cfg.kind = k)
    (st : QSt) (y : PyVal) (r : LoopR) (hr : r.r = none) (rl' : List PyVal)
    (h1 : r.es = [] → QInv k st r.ws [] (.py y)) (h2 : QInv k st rl' r.es (.py y)) :
    outQ cfg (QStmt.exec o cfg x st (qFinal k)) = some (finishSeq k cfg.vid y r, st.tr) := by
  have hie : st.env.get .indexErrs = qErrs k r.es := h2.ie
  have hcv : st.env.get .coercedVal = .py y := h2.cv
  cases hes : r.es with
  | nil =>
    have hrl : st.env.get .returnList = qPayloads k r.ws := (h1 hes).rl
    rw [hes] at hie
    rcases hk with rfl | rfl <;>
      simp only [finishSeq, hr, hes, qFinal, qexec_ite, QExp.eval, hie, qErrs, qtruthy, List.isEmpty_nil, Bool.not_true, qexecL_single,
        QStmt.exec, hrl, qPayloads, outQ, hkc, if_true, SeqKind.build]
  | cons a l =>
    rw [hes] at hie
    rcases hk with rfl | rfl <;>
      simp only [finishSeq, hr, hes, qFinal, qexec_ite, QExp.eval, hie, hcv, qErrs, qtruthy, List.map_cons, List.isEmpty_cons,
        Bool.not_false, qexecL_single, QStmt.exec, outQ, Bool.false_eq_true, if_false]

theorem qTail_exec (o : Oracle) (cfg : SeqCfg) (k : SeqKind) (hk : k = .set ∨ k = .utuple) (hkc : cfg.kind = k) (x : PyVal) (aw : Bool)
    (st : QSt) (y : PyVal) (hy : st.env.coercedVal = .py y) :
    outQ cfg (QStmt.execL o cfg x st (qTail k aw)) =
      (match pyIter y with
       | none => some (.raised .typeError, st.tr)
       | some xs =>
         match loopItems cfg.item (k == .set) xs 0 true with
         | none => none
         | some r => some (finishSeq k cfg.vid y r, st.tr ++ r.t)) := by
  have hinv0 : QInv k { st with env := (st.env.set .returnList (qPayloads k [])).set .indexErrs (qErrs k []) } [] [] (.py y) :=
    ⟨rfl, rfl, hy⟩
  rw [qTail, qInit_exec o cfg x k, qexecL_cons, qLoop_exec o cfg x k aw _ y hinv0.cv]
  cases pyIter y with
  | none => rfl
  | some xs =>
    obtain ⟨l1, l2, l3⟩ := qforFold2_items cfg (k == .set) (QInv k) (fun _ _ _ _ _ _ h => ⟨h.rl, h.ie, h.cv⟩) (fun st => QStmt.execL o cfg x st (qLoopBody k aw))
      (qLoopBody_exec o cfg x k aw) xs 0 _ [] [] (.py y) hinv0
    simp only
    cases hl : loopItems cfg.item (k == .set) xs 0 true with
    | none =>
      obtain ⟨t, ht⟩ := l1 hl
      rw [ht]; rfl
    | some r =>
      cases hr : r.r with
      | some e => rw [l2 r e hl hr]; simp only [finishSeq, hr]; rfl
      | none =>
        obtain ⟨st1, h1, h2, h3, rl', h4⟩ := l3 r hl hr
        rw [h1]
        simp only [qexecL_single]
        rw [qFinal_exec o cfg x k hk hkc st1 y r hr rl' h3 h4, h2]

theorem qTailSet_exec (o : Oracle) (cfg : SeqCfg) (hk : cfg.kind = .set) (x : PyVal) (aw : Bool)
    (st : QSt) (y : PyVal) (hy : st.env.coercedVal = .py y) :
    outQ cfg (QStmt.execL o cfg x st (qTail .set aw)) =
      (match pyIter y with
       | none => some (.raised .typeError, st.tr)
       | some xs =>
         match loopItems cfg.item true xs 0 true with
         | none => none
         | some r => some (finishSeq .set cfg.vid y r, st.tr ++ r.t)) :=
  qTail_exec o cfg .set (.inl rfl) hk x aw st y hy

theorem qTailTup_exec (o : Oracle) (cfg : SeqCfg) (hk : cfg.kind = .utuple) (x : PyVal) (aw : Bool)
    (st : QSt) (y : PyVal) (hy : st.env.coercedVal = .py y) :
    outQ cfg (QStmt.execL o cfg x st (qTail .utuple aw)) =
      (match pyIter y with
       | none => some (.raised .typeError, st.tr)
       | some xs =>
         match loopItems cfg.item false xs 0 true with
         | none => none
         | some r => some (finishSeq .utuple cfg.vid y r, st.tr ++ r.t)) :=
  qTail_exec o cfg .utuple (.inr rfl) hk x aw st y hy

theorem seq_method (o : Oracle) (cfg : SeqCfg) (k : SeqKind) (hk : k = .set ∨ k = .utuple) (hkc : cfg.kind = k) (x : PyVal)
    (m : Mode) (stage : List QStmt) (aw : Bool) (hstage : QPredsStage o cfg x m stage)
    (hm : ¬ (m = .sync ∧ cfg.apreds.getD [] ≠ [])) :
    outQ cfg (QStmt.execL o cfg x { env := {}, tr := [] } (qGate k :: (stage ++ qTail k aw))) =
      seqStep k o m cfg.vid (cfg.preds.getD []) (cfg.apreds.getD []) cfg.coerce cfg.item x := by
  have hg := qGate_exec o cfg x { env := {}, tr := [] } (stage ++ qTail k aw)
  rw [hkc] at hg
  obtain ⟨p, hp⟩ : ∃ p, seqPre k o m cfg.vid (cfg.preds.getD []) (cfg.apreds.getD []) cfg.coerce x = p := ⟨_, rfl⟩
  obtain ⟨ml, mr⟩ := (seqPre_eq_iff.mp hp).method (cv := fun st y => st.env.coercedVal = .py y) (trOf := (·.tr)) hm
    (hgate := hg) (hstage := fun st y h => hstage st y _ h)
    (T := fun y its t => match its with
      | none => some (.raised .typeError, t)
      | some xs => match loopItems cfg.item (k == .set) xs 0 true with
        | none => none
        | some r => some (finishSeq k cfg.vid y r, t ++ r.t))
    (hT := fun _ _ => rfl) (htail := fun st y h => qTail_exec o cfg k hk hkc x aw st y h)
  rw [seqStep, hp]
  rcases p with r | ⟨y, xs, t⟩
  · exact ml r rfl
  · exact mr y xs t rfl

theorem seq_sync (o : Oracle) (cfg : SeqCfg) (k : SeqKind) (hk : k = .set ∨ k = .utuple) (hkc : cfg.kind = k) (x : PyVal) :
    outQ cfg (QStmt.execL o cfg x { env := {}, tr := [] } (qGuard :: qGate k :: qPredsSync :: qTail k false)) =
      seqStep k o .sync cfg.vid (cfg.preds.getD []) (cfg.apreds.getD []) cfg.coerce cfg.item x := by
  rw [qGuard_exec]
  by_cases hap : cfg.apreds.getD [] = []
  · rw [if_neg (fun h => h hap)]
    exact seq_method o cfg k hk hkc x .sync [qPredsSync] false (qPredsSync_exec o cfg x) (fun h => h.2 hap)
  · rw [if_pos hap, seqStep, seqPre_eq_iff.mpr (.guard rfl hap)]; rfl

/-- **the synchronous set validator, as written in the source, is the model's `seqStep .set`** -/
theorem src_set_sync (o : Oracle) (cfg : SeqCfg) (hk : cfg.kind = .set) (x : PyVal) :
    runSeqMethod o cfg Src.setSync x =
      seqStep .set o .sync cfg.vid (cfg.preds.getD []) (cfg.apreds.getD []) cfg.coerce cfg.item x := by
  rw [runSeqMethod_eq, setSync_eq]
  exact seq_sync o cfg .set (.inl rfl) hk x

/-- **the synchronous uniform-tuple validator, as written in the source, is the model's `seqStep .utuple`** -/
theorem src_utuple_sync (o : Oracle) (cfg : SeqCfg) (hk : cfg.kind = .utuple) (x : PyVal) :
    runSeqMethod o cfg Src.utupleSync x =
      seqStep .utuple o .sync cfg.vid (cfg.preds.getD []) (cfg.apreds.getD []) cfg.coerce cfg.item x := by
  rw [runSeqMethod_eq, utupleSync_eq]
  exact seq_sync o cfg .utuple (.inr rfl) hk x

/-- **the asynchronous set validator, as written in the source, is the model's `seqStep .set`** -/
theorem src_set_async (o : Oracle) (cfg : SeqCfg) (hk : cfg.kind = .set) (x : PyVal) :
    runSeqMethod o cfg Src.setAsync x =
      seqStep .set o .async cfg.vid (cfg.preds.getD []) (cfg.apreds.getD []) cfg.coerce cfg.item x := by
  rw [runSeqMethod_eq, setAsync_eq]
  exact seq_method o cfg .set (.inl rfl) hk x .async _ true (qAsyncPreds_exec_pe o cfg x) (fun h => Mode.noConfusion h.1)

/-- **the asynchronous uniform-tuple validator, as written in the source, is the model's `seqStep .utuple`** -/
theorem src_utuple_async (o : Oracle) (cfg : SeqCfg) (hk : cfg.kind = .utuple) (x : PyVal) :
    runSeqMethod o cfg Src.utupleAsync x =
      seqStep .utuple o .async cfg.vid (cfg.preds.getD []) (cfg.apreds.getD []) cfg.coerce cfg.item x := by
  rw [runSeqMethod_eq, utupleAsync_eq]
  exact seq_method o cfg .utuple (.inr rfl) hk x .async _ true (qAsyncPreds_exec_le o cfg x) (fun h => Mode.noConfusion h.1)

/-- `_item_validator_is_tuple = isinstance(item_validator, _ToTupleValidator)`; everything else is stored as given -/
theorem src_seq_inits : Src.seqInits =
    ["SetValidator.__init__: self.item_validator = item_validator ; self.predicates = predicates ; self.predicates_async = predicates_async ; self.coerce = coerce ; self._item_validator_is_tuple = isinstance(item_validator, _ToTupleValidator)",
     "UniformTupleValidator.__init__: self.item_validator = item_validator ; self.predicates = predicates ; self.predicates_async = predicates_async ; self.coerce = coerce ; self._item_validator_is_tuple = isinstance(item_validator, _ToTupleValidator)"] := rfl

/-! ### non-vacuity: `SetValidator(IntValidator())` on `{1, "a"}` and `UniformTupleValidator(IntValidator())` on `[1, 2]`
    (default coercer) through the translated source -/

example : runSeqMethod default
      ⟨.set, 1, fun y => some (scalarStep default .sync 2 .int none [] [] [] y), true, none, none, none⟩ Src.setSync
      (.set 9 [.int 1, .str [97]]) =
    some (.invalid (.mk .set (.set 9 [.int 1, .str [97]]) 1 [.mk (.type .int) (.str [97]) 2 []]), []) := by
  rw [src_set_sync _ _ rfl]; rfl

example : runSeqMethod default
      ⟨.utuple, 1, fun y => some (scalarStep default .sync 2 .int none [] [] [] y), false, some .dflt, none, none⟩ Src.utupleAsync
      (.list 9 [.int 1, .int 2]) =
    some (.valid (.tuple 0 [.int 1, .int 2]), []) := by
  rw [src_utuple_async _ _ rfl]; rfl

end Koda
