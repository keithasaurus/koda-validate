/-
  C04 — `RecordValidator` *as written in /repo's current source*.

  `Generated/DictAnySrc.lean` (regenerated on every run) also holds the translation of
  `RecordValidator._validate_to_tuple` and `_validate_to_tuple_async` (koda_validate/dictionary.py), in the same
  language (`KodaModel/PyDictAny.lean`).  Interpreting them is the model's `recordStep` for the `record` kind: for every
  list of keys (validators, requiredness - a `KeyNotRequired` marker stays in place and wraps its payload in `Just`),
  target constructor, policy, whole-object check and input - `isinstance(data, dict)`, undeclared keys first, every
  declared key, `nothing` for an absent optional key, `into(*args)` with the payloads in declaration order.
-/
import KodaModel.Properties.C04DictAny

namespace Koda

def DictAnyCfg.toRecord (c : DictAnyCfg) : RecCfg :=
  { kind := .record, keys := c.keys, reqs := c.reqs, cls := default, fieldNames := [], defaults := [], intoId := c.intoId,
    into := c.into, oc := c.oc, aoc := c.aoc, failUnknown := c.failUnknown, coerce := none }

def rGate : DStmt := .ite (.not (.isInstDict .data)) [.ret (.pair (.bool false) (.mkInvalid (.mkTypeErr .dictTy) .data .self))] []

/-- an absent optional key: the sync method appends `nothing` only while no error has been seen, the async one always -/
def rSkip (aw : Bool) : List DStmt :=
  if aw then [.append .args .nothing] else [.ite (.not (.var .errs)) [.append .args .nothing] []]

def rLoopBody (aw : Bool) : List DStmt :=
  kLoopBody .data .mkMissingKeyErr (rSkip aw) [.append .args (.var .newVal)] aw

def rLoop (m : Mode) : DStmt := kLoop m rLoopBody

/-- `if errs: return …KeyErrs… ; obj = <build> ; <checks on obj> ; return True, obj` (`RecordValidator`, `DataclassValidator`,
    `NamedTupleValidator`) -/
def objFinal (m : Mode) (src build : DExp) : DStmt :=
  .ite (.var .errs) (retKeys src)
    [.assign .obj build, .ite (chk false .result .obj) (retC .result .obj) (aocPart m .asyncResult .obj), retOk .obj]

def rFinal (m : Mode) : DStmt := objFinal m .data (.callStar (.selfAttr .into) (.var .args))

def rBody (m : Mode) : List DStmt :=
  [rGate, dScan, .assign .args .emptyList, .assign .errs .emptyDict, rLoop m, rFinal m]

theorem recordSync_eq : Src.recordSync = dGuard :: rBody .sync := rfl
theorem recordAsync_eq : Src.recordAsync = rBody .async := rfl

theorem rGate_exec (cfg : DictAnyCfg) (x : PyVal) :
    GateOK cfg x [rGate] .data (if x.baseTy = .dict then .acc x [] else .rej (.type .dict) []) :=
  typeGate_ok cfg x _ (x.baseTy = .dict) (fun _ => rfl)

/-- the loop's invariant where payloads go to `args`, `nothing` for an empty slot -/
structure RInv (st : DSt) (kg : Slots) (es : Entries) : Prop where
  er : st.env.errs = errsAV es
  ar : Pay st.env.args .payloadList (kg.map (fun p => p.2.getD .nothing)) es

theorem rLoopBody_step (cfg : DictAnyCfg) (x : PyVal) (aw : Bool) (data : List (PyVal × PyVal)) (hx : dictItems x = some data) :
    StepOK cfg.vid x data RInv (fun st => DStmt.execL cfg x st (rLoopBody aw)) := by
  intro st kg es k ev req hinv
  show StepSim _ st kg es k (DStmt.execL cfg x (st.bind3 k ev req) (rLoopBody aw)) _
  obtain ⟨her, ws, hws, hex⟩ := hinv
  have hpush : ∀ g : Option PyVal, es = [] →
      ws ++ [g.getD .nothing] = (kg ++ [(k, g)]).map (fun p : PyVal × Option PyVal => p.2.getD .nothing) := by
    intro g h
    rw [hex h, List.map_append]
    rfl
  rw [rLoopBody, kLoopBody_exec cfg x .data .mkMissingKeyErr _ _ aw (st.bind3 k ev req) k ev req x data es rfl rfl rfl rfl hx
    rfl her, keyStep]
  cases dictGet data k with
  | none =>
    cases req with
    | true => exact ⟨_, rfl, (List.append_nil _).symm, (errsAV_append es _).symm, Pay.filed ⟨ws, hws, hex⟩ _⟩
    | false =>
      have happ : DStmt.execL cfg x (st.bind3 k ev false) [.append .args .nothing] =
          .ok (.next { st.bind3 k ev false with env := (st.bind3 k ev false).env.set .args (.payloadList (ws ++ [.nothing])) }) := by
        rw [dexecL_single]
        exact dexec_appendList cfg x _ .args _ .nothing ws rfl hws
      have her' : st.env.errs = errsAV (es ++ []) := her.trans (congrArg errsAV (List.append_nil es).symm)
      have hex' : es ++ [] = [] →
          ws ++ [.nothing] = (kg ++ [(k, none)]).map (fun p : PyVal × Option PyVal => p.2.getD .nothing) :=
        fun h => hpush none ((List.append_nil es).symm.trans h)
      cases aw with
      | true => exact ⟨_, happ, (List.append_nil _).symm, her', _, rfl, hex'⟩
      | false =>
        show ∃ st1, DStmt.execL cfg x (st.bind3 k ev false) [.ite (.not (.var .errs)) [.append .args .nothing] []] = _ ∧ _
        rw [dexecL_unlessErrs cfg x (st.bind3 k ev false) es _ her]
        cases es with
        | nil => exact ⟨_, happ, (List.append_nil _).symm, her', _, rfl, hex'⟩
        | cons a l => exact ⟨_, rfl, (List.append_nil _).symm, her', ws, hws, fun h => absurd h (by simp)⟩
  | some xv =>
    simp only
    cases ev xv with
    | none => exact ⟨_, rfl⟩
    | some p =>
      obtain ⟨o, t⟩ := p
      cases o with
      | raised e => rfl
      | invalid e => exact ⟨_, rfl, rfl, (errsAV_append es _).symm, Pay.filed ⟨ws, hws, hex⟩ _⟩
      | valid w =>
        simp only [StepSim, List.append_nil]
        cases es with
        | cons a l => exact ⟨_, rfl, rfl, her, ws, hws, fun h => absurd h (by simp)⟩
        | nil =>
          rw [List.isEmpty_nil, if_pos rfl, dexecL_single]
          exact ⟨_, dexec_appendList cfg x _ .args _ w ws rfl hws, rfl, her, _, rfl, fun _ => hpush (some w) rfl⟩

theorem rforFold3_keys (cfg : DictAnyCfg) (x : PyVal) (aw : Bool) (data : List (PyVal × PyVal)) (hx : dictItems x = some data) :
    LoopOK cfg.vid x data RInv (fun st => DStmt.execL cfg x st (rLoopBody aw)) :=
  dforFold3_recLoop cfg.vid x data _ RInv (rLoopBody_step cfg x aw data hx)

theorem objFinal_ok (cfg : DictAnyCfg) (x : PyVal) (m : Mode) (src build : DExp) (st st' : DSt) (v : PyVal)
    (her : st.env.errs = errsAV []) (hb : build.eval cfg x st = .ok (.built v, st')) :
    outD (DStmt.execL cfg x st [objFinal m src build]) = some (finishChecks m cfg v st'.tr) := by
  rw [objFinal, dexecL_ifErrs cfg x st [] _ _ _ her]
  show outD (DStmt.execL cfg x st [.assign .obj build, _, _]) = _
  rw [dexecL_assign_cons cfg x st _ _ _ _ _ hb]
  exact checks_exec cfg x m .result .asyncResult .obj _ _ _ (fun _ _ => rfl) (fun _ _ => rfl) rfl (.built _)

theorem rFinal_keys (cfg : DictAnyCfg) (x : PyVal) (m : Mode) : KeysFin cfg x x RInv [rFinal m] :=
  fun st _ es hne hinv => outD_keysInvalid cfg x st .data x es _ _ hinv.er hne rfl

/-- `obj = self.into(*args)`, then the checks on `obj` -/
theorem rFinal_ok (cfg : DictAnyCfg) (x : PyVal) (m : Mode) (st : DSt) (kg : Slots)
    (hinv : RInv st kg []) :
    outD (DStmt.execL cfg x st [rFinal m]) =
      some (finishChecks m cfg (cfg.into (kg.map (fun p => p.2.getD .nothing))) (st.tr ++ [Ev.into cfg.intoId])) := by
  obtain ⟨her, ws, hws, hex⟩ := hinv
  have hb : (DExp.callStar (.selfAttr .into) (.var .args)).eval cfg x st =
      .ok (.built (cfg.into ws), { st with tr := st.tr ++ [.into cfg.intoId] }) := by
    have hf : (DExp.selfAttr .into).eval cfg x st = .ok (.intoFn, st) := rfl
    have ha : (DExp.var .args).eval cfg x st = .ok (.payloadList ws, st) := by rw [← hws]; rfl
    unfold DExp.eval
    simp only [hf, ha]
  rw [← hex rfl]
  exact objFinal_ok cfg x m .data _ st _ _ her hb

theorem rTail_exec (cfg : DictAnyCfg) (x : PyVal) (m : Mode) (st : DSt) (data : List (PyVal × PyVal))
    (hx : dictItems x = some data) :
    outD (DStmt.execL cfg x st [.assign .args .emptyList, .assign .errs .emptyDict, rLoop m, rFinal m]) =
      recRest cfg m cfg.toRecord x data st.tr := by
  rw [dexecL_assign_cons cfg x st _ _ _ _ _ rfl, dexecL_assign_cons cfg x _ _ _ _ _ _ rfl]
  refine kTail_exec cfg x m cfg.toRecord rfl rfl [Ev.into cfg.intoId] rfl x data rLoopBody [rFinal m] RInv
    (rLoopBody_step cfg x (awOf m) data hx) (rFinal_keys cfg x m) ?_ _
    ⟨rfl, Pay.exact _ rfl⟩
  intro st1 got hgot hi
  have hargs : (cfg.keys.zip got).map (fun p => p.2.getD .nothing) = got.map (fun g => g.getD .nothing) := by
    rw [← congrArg (List.map (fun g : Option PyVal => g.getD .nothing)) hgot, List.map_map]
    rfl
  rw [rFinal_ok cfg x m st1 _ hi, hargs]
  rfl

theorem dictItems_of_base : ∀ (x : PyVal), x.baseTy = .dict → ∃ kvs, dictItems x = some kvs
  | .sub _ v, h => dictItems_of_base v h
  | .dict _ kvs, _ => ⟨kvs, rfl⟩
  | .none, h | .bool _, h | .int _, h | .float _, h | .str _, h | .bytes _, h | .decimal _, h | .uuid _, h | .date _, h
  | .datetime _ _, h | .list _ _, h | .tuple _ _, h | .set _ _, h | .just _ _, h | .nothing, h | .inst .., h => nomatch h

theorem baseGate_items (x y : PyVal) (t : List Ev)
    (h : (if x.baseTy = .dict then Gate.acc x [] else .rej (.type .dict) []) = .acc y t) : (dictItems y).isSome = true := by
  split at h
  · rename_i hty
    obtain ⟨kvs, hk⟩ := dictItems_of_base x hty
    cases h
    rw [hk]
    rfl
  · cases h

theorem src_record (o : Oracle) (cfg : DictAnyCfg) (x : PyVal) (m : Mode) :
    outD (DStmt.execL cfg x { env := {}, tr := [] } (guardOf m ++ rBody m)) =
      recordStep o m cfg.vid cfg.toRecord cfg.evs x := by
  refine recMethod_exec cfg x o m cfg.toRecord rfl rfl rfl rfl [rGate] .data _ (rGate_exec cfg x) (baseGate_items x)
    fun st y data hy hrd => ?_
  obtain rfl := denotes_data_eq hrd
  exact rTail_exec cfg y m st data hy

/-- **the synchronous `RecordValidator`, as written in the source, is the model's `recordStep`** -/
theorem src_record_sync (o : Oracle) (cfg : DictAnyCfg) (x : PyVal) :
    runDictAnyMethod cfg Src.recordSync x = recordStep o .sync cfg.vid cfg.toRecord cfg.evs x := by
  rw [runDictAnyMethod_eq, recordSync_eq]
  exact src_record o cfg x .sync

/-- **the asynchronous `RecordValidator`, as written in the source, is the model's `recordStep`** -/
theorem src_record_async (o : Oracle) (cfg : DictAnyCfg) (x : PyVal) :
    runDictAnyMethod cfg Src.recordAsync x = recordStep o .async cfg.vid cfg.toRecord cfg.evs x := by
  rw [runDictAnyMethod_eq, recordAsync_eq]
  exact src_record o cfg x .async

theorem src_record_init : Src.recordInit =
    "self.into = into ; self.keys: Tuple[KeyValidator[Any], ...] = keys ; if validate_object is not None and validate_object_async is not None:     _raise_cannot_define_validate_object_and_validate_object_async() ; self.validate_object = validate_object ; self.validate_object_async = validate_object_async ; self.fail_on_unknown_keys = fail_on_unknown_keys ; self._disallow_synchronous = bool(validate_object_async) ; self._key_set = set() ; self._fast_keys_sync: List[Tuple[Hashable, Callable[[Any], _ResultTuple[Any]], bool]] = [] ; self._fast_keys_async: List[Tuple[Hashable, Callable[[Any], Awaitable[_ResultTuple[Any]]], bool]] = [] ; for key, val in keys:     is_required = not isinstance(val, KeyNotRequired)     self._fast_keys_sync.append((key, _wrap_sync_validator(val), is_required))     self._fast_keys_async.append((key, _wrap_async_validator(val), is_required))     self._key_set.add(key) ; self._unknown_keys_err: ExtraKeysErr = ExtraKeysErr(self._key_set)" := rfl

/-! ### non-vacuity: `RecordValidator(into=tuple-of, keys=(("a", IntValidator()), ("b", KeyNotRequired(...))))` on `{"a": 5}` -/

example : runDictAnyMethod
      { vid := 1, keys := [.str [97], .str [98]],
        evs := [fun y => some (scalarStep default .sync 2 .int none [] [] [] y), fun y => some (scalarStep default .sync 3 .str none [] [] [] y)],
        reqs := [true, false], oc := none, aoc := none, failUnknown := false, into := fun ws => .tuple 0 ws, intoId := 7 }
      Src.recordSync (.dict 9 [(.str [97], .int 5)]) =
    some (.valid (.tuple 0 [.int 5, .nothing]), [.into 7]) := by
  rw [src_record_sync default]; rfl

end Koda
