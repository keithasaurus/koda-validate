/-
  C03 — Collection validators check every element and report every failing position.

  The children are arbitrary evaluators (`Ev1`): built-in or user-written, any mode, any nesting.
-/
import KodaModel.Lemmas.Mono

namespace Koda

/-- `ItemsRun ev xs i ws es t`: running `ev` on every element of `xs` (positions `i, i+1, …`) —
    none raised; `ws` are the payloads of the accepted elements in order; `es` is *exactly* the list
    of (position, the child's own error) for the rejected elements; `t` the concatenated trace. -/
inductive ItemsRun (ev : Ev1) : List PyVal → Nat → List PyVal → List (Nat × Inv) → List Ev → Prop
  | nil (i : Nat) : ItemsRun ev [] i [] [] []
  | valid {x xs i w ws es t t'} : ev x = some (.valid w, t) → ItemsRun ev xs (i + 1) ws es t' →
      ItemsRun ev (x :: xs) i (w :: ws) es (t ++ t')
  | invalid {x xs i e ws es t t'} : ev x = some (.invalid e, t) → ItemsRun ev xs (i + 1) ws es t' →
      ItemsRun ev (x :: xs) i ws ((i, e) :: es) (t ++ t')

theorem Items.run {ev : Ev1} {xs i ne r} (h : Items ev false xs i ne r) (hr : r.r = none) :
    ItemsRun ev xs i r.ws r.es r.t := by
  induction h with
  | nil i ne => exact .nil i
  | raised => cases hr
  | unhashable _ hc => cases hc
  | valid hx _ _ ih => exact .valid hx (ih hr)
  | invalid hx _ ih => exact .invalid hx (ih hr)

theorem ItemsRun.items {ev : Ev1} {xs i ws es t} (h : ItemsRun ev xs i ws es t) :
    ∀ ne, Items ev false xs i ne ⟨ws, es, t, none⟩ := by
  induction h with
  | nil i => exact fun ne => .nil i ne
  | valid hx _ ih => exact fun ne => .valid (hr := false) hx Bool.false_ne_true (ih ne)
  | invalid hx _ ih => exact fun ne => .invalid hx (ih false)

/-- the loop computes exactly `ItemsRun` (no hashing requirement: lists and tuples) -/
theorem loopItems_iff (ev : Ev1) (xs : List PyVal) :
    ∀ i ne ws es t, loopItems ev false xs i ne = some ⟨ws, es, t, none⟩ ↔ ItemsRun ev xs i ws es t :=
  fun _ ne _ _ _ => ⟨fun h => (Items.of_loop h).run rfl, fun h => (h.items ne).loop⟩

/-- children produce hashable payloads (the property's premise where a set is built) -/
def HashablePayloads (ev : Ev1) : Prop := ∀ x w t, ev x = some (.valid w, t) → hashable w = true

theorem Items.rehash {ev : Ev1} (hh : HashablePayloads ev) {hr hr' xs i ne r} (h : Items ev hr xs i ne r) :
    Items ev hr' xs i ne r := by
  induction h with
  | nil i ne => exact .nil i ne
  | raised hx => exact .raised hx
  | unhashable hx hc => rw [hh _ _ _ hx] at hc; simp at hc
  | valid hx _ _ ih => exact .valid hx (by rw [hh _ _ _ hx]; simp) ih
  | invalid hx _ ih => exact .invalid hx ih

theorem loopItems_hash (ev : Ev1) (hh : HashablePayloads ev)
    (xs : List PyVal) : ∀ i ne, loopItems ev true xs i ne = loopItems ev false xs i ne :=
  fun _ _ => Option.ext fun _ =>
    ⟨fun h => ((Items.of_loop h).rehash hh).loop, fun h => ((Items.of_loop h).rehash hh).loop⟩

/-- **only failing positions are reported**, each with the child's own `Invalid` -/
theorem ItemsRun.sound {ev : Ev1} {xs i ws es t} (h : ItemsRun ev xs i ws es t) :
    ∀ p ∈ es, ∃ j x u, p.1 = i + j ∧ xs[j]? = some x ∧ ev x = some (.invalid p.2, u) := by
  induction h with
  | nil i => exact nofun
  | valid _ _ ih =>
    intro p hp
    obtain ⟨j, y, u, h1, h2, h3⟩ := ih p hp
    exact ⟨j + 1, y, u, h1.trans (Nat.add_right_comm _ 1 j), h2, h3⟩
  | @invalid x xs i e0 ws es t t' hx _ ih =>
    intro p hp
    rcases List.mem_cons.1 hp with rfl | hp
    · exact ⟨0, x, t, rfl, rfl, hx⟩
    · obtain ⟨j, y, u, h1, h2, h3⟩ := ih p hp
      exact ⟨j + 1, y, u, h1.trans (Nat.add_right_comm _ 1 j), h2, h3⟩

/-- **every failing position is reported** -/
theorem ItemsRun.complete {ev : Ev1} {xs i ws es t} (h : ItemsRun ev xs i ws es t) :
    ∀ (j : Nat) y e u, xs[j]? = some y → ev y = some (.invalid e, u) → (i + j, e) ∈ es := by
  induction h with
  | nil i => exact nofun
  | @valid x xs i w ws es t t' hx _ ih =>
    intro j y e u hget hev
    cases j with
    | zero => cases hget; rw [hx] at hev; cases hev
    | succ j => exact Nat.add_right_comm i j 1 ▸ ih j y e u hget hev
  | @invalid x xs i e0 ws es t t' hx _ ih =>
    intro j y e u hget hev
    cases j with
    | zero => cases hget; rw [hx] at hev; cases hev; exact List.mem_cons_self
    | succ j => exact List.mem_cons_of_mem _ (Nat.add_right_comm i j 1 ▸ ih j y e u hget hev)

/-- positions are reported in increasing order -/
theorem ItemsRun.sorted {ev : Ev1} {xs i ws es t} (h : ItemsRun ev xs i ws es t) :
    (es.map Prod.fst).Pairwise (· < ·) ∧ ∀ p ∈ es, i ≤ p.1 := by
  induction h with
  | nil i => exact ⟨.nil, nofun⟩
  | valid _ _ ih => exact ⟨ih.1, fun p hp => Nat.le_of_succ_le (ih.2 p hp)⟩
  | invalid _ _ ih =>
    refine ⟨List.pairwise_cons.2 ⟨fun a ha => ?_, ih.1⟩, fun p hp => ?_⟩
    · obtain ⟨p, hp, rfl⟩ := List.mem_map.1 ha
      exact ih.2 p hp
    · rcases List.mem_cons.1 hp with rfl | hp
      · exact Nat.le_refl _
      · exact Nat.le_of_succ_le (ih.2 p hp)

/-- payloads and errors together account for every element -/
theorem ItemsRun.length {ev : Ev1} {xs i ws es t} (h : ItemsRun ev xs i ws es t) :
    ws.length + es.length = xs.length := by
  induction h with
  | nil => rfl
  | valid _ _ ih => rw [List.length_cons, List.length_cons, Nat.add_right_comm, ih]
  | invalid _ _ ih => rw [List.length_cons, List.length_cons, ← Nat.add_assoc, ih]

theorem ItemsRun.all_valid {ev : Ev1} {xs i ws t} (h : ItemsRun ev xs i ws [] t) :
    ws.length = xs.length ∧ ∀ (j : Nat) y, xs[j]? = some y → ∃ w u, ws[j]? = some w ∧ ev y = some (.valid w, u) := by
  generalize hes : ([] : List (Nat × Inv)) = es at h
  induction h with
  | nil => exact ⟨rfl, nofun⟩
  | @valid x xs i w ws es t t' hx _ ih =>
    obtain ⟨hl, hall⟩ := ih hes
    refine ⟨congrArg (· + 1) hl, fun j y hget => ?_⟩
    cases j with
    | zero => cases hget; exact ⟨w, t, rfl, hx⟩
    | succ j => exact hall j y hget
  | invalid => cases hes

theorem ItemsRun.of_all_valid (ev : Ev1) (xs : List PyVal)
    (h : ∀ y ∈ xs, ∃ w, ev y = some (.valid w, [])) : ∀ i, ∃ ws, ItemsRun ev xs i ws [] [] := by
  induction xs with
  | nil => exact fun i => ⟨[], .nil i⟩
  | cons y ys ih =>
    intro i
    obtain ⟨w, hw⟩ := h y List.mem_cons_self
    obtain ⟨ws, hws⟩ := ih (fun z hz => h z (List.mem_cons_of_mem _ hz)) (i + 1)
    exact ⟨w :: ws, .valid hw hws⟩

/-- **container-level failures are reported before, and instead of, any element being validated**:
    when guard, gate or a container predicate decides, the result does not depend on the child
    evaluator at all (so its trace cannot contain a child event, and a non-terminating child is
    never entered). -/
theorem C03_seq_container_first {k o m vid ps aps c x r} (h : seqPre k o m vid ps aps c x = .inl r)
    (ev : Ev1) : seqStep k o m vid ps aps c ev x = some r := by
  simp [seqStep, h]

theorem C03_pre_iff (k : SeqKind) (o : Oracle) (m : Mode) (vid : Nat) (ps aps : List Pred)
    (c : Option CoerceK) (x y : PyVal) (xs : List PyVal) (t : List Ev) :
    seqPre k o m vid ps aps c x = .inr (y, xs, t) ↔
      ¬ (m = .sync ∧ aps ≠ []) ∧
      ∃ t0 t1, gate o k.gateTy k.destTy c x = .acc y t0 ∧ contPreds m ps aps y = ([], t1, none) ∧
        pyIter y = some xs ∧ t = t0 ++ t1 :=
  seqPre_eq_iff.trans ContPre.inr_iff

/-- no predicates, no coercer: the container level is the exact-type test -/
theorem ContPre.plain {α : Type} {items : PyVal → Option α} {exn : Exn} (o : Oracle) (m : Mode) (vid : Nat)
    {y : PyVal} {g d : Ty} {xs : α} (hty : y.ty = g) (hit : items y = some xs) :
    ContPre g d items exn o m vid [] [] none y (.inr (y, xs, [])) := by
  have hg : gate o g d none y = .acc y [] := by simp [gate, hty]
  have hp : contPreds m [] [] y = ([], [], none) := by cases m <;> rfl
  exact .pass (fun h => h.2 rfl) hg hp hit

theorem seqPre_plain (k : SeqKind) (o : Oracle) (m : Mode) (vid : Nat) {y : PyVal} {xs : List PyVal}
    (hty : y.ty = k.gateTy) (hit : pyIter y = some xs) :
    seqPre k o m vid [] [] none y = .inr (y, xs, []) :=
  seqPre_eq_iff.2 (.plain o m vid hty hit)

theorem mapPre_plain (o : Oracle) (m : Mode) (vid oid : Nat) (kvs : List (PyVal × PyVal)) :
    mapPre o m vid [] [] none (.dict oid kvs) = .inr (.dict oid kvs, kvs, []) :=
  mapPre_eq_iff.2 (.plain o m vid rfl rfl)

theorem ntuplePre_plain (o : Oracle) (vid lp oid : Nat) (xs : List PyVal) :
    ntuplePre o vid none lp xs.length (.tuple oid xs) = .inr (.tuple oid xs, xs, []) :=
  ntuplePre_eq_iff.2 (.pass rfl rfl rfl)

theorem seqStep_inr {k o m vid ps aps c x y xs t0} (h : seqPre k o m vid ps aps c x = .inr (y, xs, t0))
    (ev : Ev1) (hh : k = .set → HashablePayloads ev) :
    seqStep k o m vid ps aps c ev x =
      (loopItems ev false xs 0 true).map (fun r => (finishSeq k vid y r, t0 ++ r.t)) := by
  simp only [seqStep, h]
  have : loopItems ev (k == .set) xs 0 true = loopItems ev false xs 0 true := by
    cases k with
    | set => exact loopItems_hash ev (hh rfl) xs 0 true
    | list => rfl
    | utuple => rfl
  rw [this]
  cases loopItems ev false xs 0 true <;> rfl

/-- **accept ⇔ container level passes ∧ every element is accepted by the child; the payload is a
    new container of that kind holding the children's payloads in order** (sets: merged as Python
    merges equal members, `dedup`) — never the raw elements. -/
theorem C03_seq_accept_iff (k : SeqKind) (o : Oracle) (m : Mode) (vid : Nat) (ps aps : List Pred)
    (c : Option CoerceK) (ev : Ev1) (hh : k = .set → HashablePayloads ev) (x w : PyVal) (t : List Ev) :
    seqStep k o m vid ps aps c ev x = some (.valid w, t) ↔
      ∃ y xs t0 ws t1, seqPre k o m vid ps aps c x = .inr (y, xs, t0) ∧
        ItemsRun ev xs 0 ws [] t1 ∧ w = k.build ws ∧ t = t0 ++ t1 := by
  constructor
  · intro h
    cases hp : seqPre k o m vid ps aps c x with
    | inl r =>
      rw [C03_seq_container_first hp] at h
      cases h
      exact absurd rfl ((seqPre_eq_iff.1 hp).inl_not_valid w)
    | inr q =>
      obtain ⟨y, xs, t0⟩ := q
      rw [seqStep_inr hp ev hh] at h
      obtain ⟨r, hl, hf⟩ := Option.map_eq_some_iff.1 h
      obtain ⟨h1, rfl⟩ := Prod.mk.inj hf
      obtain ⟨hr, hes, rfl⟩ := finishSeq_valid.1 h1
      exact ⟨y, xs, t0, r.ws, r.t, rfl, hes ▸ (Items.of_loop hl).run hr, rfl, rfl⟩
  · rintro ⟨y, xs, t0, ws, t1, hp, hrun, rfl, rfl⟩
    rw [seqStep_inr hp ev hh, (loopItems_iff ..).2 hrun]
    rfl

/-- **on rejection by elements the error names exactly the failing positions, each holding the
    child's own `Invalid`** (`ItemsRun` fixes `es`: see `ItemsRun.sound`, `.complete`, `.sorted`). -/
theorem C03_seq_reject_iff (k : SeqKind) (o : Oracle) (m : Mode) (vid : Nat) (ps aps : List Pred)
    (c : Option CoerceK) (ev : Ev1) (hh : k = .set → HashablePayloads ev) (x y : PyVal) (xs : List PyVal)
    (t0 : List Ev) (hp : seqPre k o m vid ps aps c x = .inr (y, xs, t0)) (e : Inv) (t : List Ev) :
    seqStep k o m vid ps aps c ev x = some (.invalid e, t) ↔
      ∃ ws es t1, ItemsRun ev xs 0 ws es t1 ∧ es ≠ [] ∧ e = seqElemErr k vid y es ∧ t = t0 ++ t1 := by
  rw [seqStep_inr hp ev hh]
  constructor
  · intro h
    obtain ⟨r, hl, hf⟩ := Option.map_eq_some_iff.1 h
    obtain ⟨h1, rfl⟩ := Prod.mk.inj hf
    obtain ⟨hr, hes, rfl⟩ := finishSeq_invalid.1 h1
    exact ⟨r.ws, r.es, r.t, (Items.of_loop hl).run hr, hes, rfl, rfl⟩
  · rintro ⟨ws, es, t1, hrun, hne, rfl, rfl⟩
    rw [(loopItems_iff ..).2 hrun]
    exact congrArg (fun o => some (o, _)) (finishSeq_invalid.2 ⟨rfl, hne, rfl⟩)

theorem C03_list_run (o : Oracle) (env : Nat → V) (m : Mode) (n vid : Nat) (item : V) (ps aps : List Pred)
    (c : Option CoerceK) (x : PyVal) :
    run o env m (n + 1) (.list vid item ps aps c) x = seqStep .list o m vid ps aps c (run o env m n item) x := rfl

theorem C03_set_run (o : Oracle) (env : Nat → V) (m : Mode) (n vid : Nat) (item : V) (ps aps : List Pred)
    (c : Option CoerceK) (x : PyVal) :
    run o env m (n + 1) (.set vid item ps aps c) x = seqStep .set o m vid ps aps c (run o env m n item) x := rfl

theorem C03_utuple_run (o : Oracle) (env : Nat → V) (m : Mode) (n vid : Nat) (item : V) (ps aps : List Pred)
    (c : Option CoerceK) (x : PyVal) :
    run o env m (n + 1) (.utuple vid item ps aps c) x = seqStep .utuple o m vid ps aps c (run o env m n item) x := rfl

/-- slot `i + j` is validated by the `j`-th field validator -/
inductive FieldsRun : List Ev1 → List PyVal → Nat → List PyVal → List (Nat × Inv) → List Ev → Prop
  | nil (i : Nat) : FieldsRun [] [] i [] [] []
  | valid {ev evs x xs i w ws es t t'} : ev x = some (.valid w, t) → FieldsRun evs xs (i + 1) ws es t' →
      FieldsRun (ev :: evs) (x :: xs) i (w :: ws) es (t ++ t')
  | invalid {ev evs x xs i e ws es t t'} : ev x = some (.invalid e, t) → FieldsRun evs xs (i + 1) ws es t' →
      FieldsRun (ev :: evs) (x :: xs) i ws ((i, e) :: es) (t ++ t')

theorem Fields.run {evs : List Ev1} {xs i r} (h : Fields evs xs i r) (hl : evs.length = xs.length)
    (hr : r.r = none) : FieldsRun evs xs i r.ws r.es r.t := by
  induction h with
  | done i h =>
    -- one of the lists is empty, so both are
    rcases h with rfl | rfl
    · cases List.length_eq_zero_iff.1 hl.symm; exact .nil i
    · cases List.length_eq_zero_iff.1 hl; exact .nil i
  | raised => cases hr
  | valid hx _ ih => exact .valid hx (ih (Nat.succ.inj hl) hr)
  | invalid hx _ ih => exact .invalid hx (ih (Nat.succ.inj hl) hr)

theorem FieldsRun.fields {evs : List Ev1} {xs i ws es t} (h : FieldsRun evs xs i ws es t) :
    Fields evs xs i ⟨ws, es, t, none⟩ := by
  induction h with
  | nil i => exact .done i (.inl rfl)
  | valid hx _ ih => exact .valid hx ih
  | invalid hx _ ih => exact .invalid hx ih

theorem loopFields_iff : ∀ (evs : List Ev1) (xs : List PyVal), evs.length = xs.length →
    ∀ i ws es t, loopFields evs xs i = some ⟨ws, es, t, none⟩ ↔ FieldsRun evs xs i ws es t :=
  fun _ _ hl _ _ _ _ => ⟨fun h => (Fields.of_loop h).run hl rfl, fun h => h.fields.loop⟩

/-- arity and gate failures of an n-tuple are decided before any slot is validated -/
theorem C03_ntuple_container_first {o vid c lp x r} (evs : List Ev1) (oc : Option ObjCheck)
    (h : ntuplePre o vid c lp evs.length x = .inl r) : ntupleStep o vid oc c lp evs x = some r := by
  simp [ntupleStep, h]

/-- what passing the n-tuple's container level means: gate, then **arity** -/
theorem C03_ntuple_pre_iff (o : Oracle) (vid : Nat) (c : Option CoerceK) (lp arity : Nat) (x y : PyVal)
    (xs : List PyVal) (t : List Ev) :
    ntuplePre o vid c lp arity x = .inr (y, xs, t) ↔
      gate o .tuple .list c x = .acc y t ∧ pyLen y = some arity ∧ pyIter y = some xs :=
  ntuplePre_eq_iff.trans NtuplePre.inr_iff

/-- an arity mismatch is a predicate error naming the arity predicate and holding the coerced tuple -/
theorem C03_ntuple_arity (o : Oracle) (vid : Nat) (oc : Option ObjCheck) (c : Option CoerceK) (lp : Nat)
    (evs : List Ev1) (x y : PyVal) (t : List Ev) (n : Nat)
    (hg : gate o .tuple .list c x = .acc y t) (hn : pyLen y = some n) (hne : n ≠ evs.length) :
    ntupleStep o vid oc c lp evs x = some (.invalid (.mk (.preds [lp]) y vid []), t) := by
  simp [ntupleStep, ntuplePre, hg, hn, hne]

/-- n-tuple: accepted iff every slot is accepted by its own validator and the whole-object check
    passes; the payload is a new tuple of the slots' payloads -/
theorem C03_ntuple_accept_iff (o : Oracle) (vid : Nat) (oc : Option ObjCheck) (c : Option CoerceK)
    (lp : Nat) (evs : List Ev1) (x y : PyVal) (xs : List PyVal) (t0 : List Ev)
    (hp : ntuplePre o vid c lp evs.length x = .inr (y, xs, t0)) (hlen : evs.length = xs.length)
    (w : PyVal) (t : List Ev) :
    ntupleStep o vid oc c lp evs x = some (.valid w, t) ↔
      ∃ ws t1, FieldsRun evs xs 0 ws [] t1 ∧ w = .tuple 0 ws ∧
        (runObjCheck oc vid (.tuple 0 ws)).1 = .valid (.tuple 0 ws) ∧
        t = t0 ++ t1 ++ (runObjCheck oc vid (.tuple 0 ws)).2 := by
  rw [ntupleStep_some, hp]
  constructor
  · rintro (h | ⟨_, _, _, l, h, hl, he⟩) <;> cases h
    obtain ⟨hr, hes, rfl, hoc, rfl⟩ := ntupleFinish_valid he.symm
    exact ⟨l.ws, l.t, hes ▸ hl.run hlen hr, rfl, hoc, rfl⟩
  · rintro ⟨ws, t1, hrun, rfl, hoc, rfl⟩
    exact .inr ⟨y, xs, t0, _, rfl, hrun.fields, by simp [ntupleFinish, hoc]⟩

/-- n-tuple: on rejection by slots the error names exactly the failing slots; the whole-object
    check is not run (its event cannot appear: the trace is the slots' trace) -/
theorem C03_ntuple_reject_slots (o : Oracle) (vid : Nat) (oc : Option ObjCheck) (c : Option CoerceK)
    (lp : Nat) (evs : List Ev1) (x y : PyVal) (xs : List PyVal) (t0 : List Ev)
    (hp : ntuplePre o vid c lp evs.length x = .inr (y, xs, t0)) (hlen : evs.length = xs.length)
    (ws : List PyVal) (es : List (Nat × Inv)) (t1 : List Ev) (hrun : FieldsRun evs xs 0 ws es t1)
    (hne : es ≠ []) :
    ntupleStep o vid oc c lp evs x =
      some (.invalid (.mk (.index (es.map Prod.fst)) y vid (es.map Prod.snd)), t0 ++ t1) := by
  simp only [ntupleStep, hp]
  rw [(loopFields_iff _ _ hlen _ _ _ _).2 hrun]
  cases es with
  | nil => exact absurd rfl hne
  | cons p es => simp [ntupleFinish]

/-- `MapRun evk evv kvs acc out ks shape errs t`: both children ran on every pair; `out` is `acc`
    extended (Python `d[k] = v` semantics) by (key payload, value payload) of the pairs both of whose
    parts were accepted; for every other pair the *original key* is in `ks`, `shape` says which
    part(s) failed and `errs` holds the children's own errors (key part first). -/
inductive MapRun (evk evv : Ev1) : List (PyVal × PyVal) → List (PyVal × PyVal) → List (PyVal × PyVal) →
    List PyVal → List (Bool × Bool) → List Inv → List Ev → Prop
  | nil (acc) : MapRun evk evv [] acc acc [] [] [] []
  | both {k v rest acc out kw vw tk tv ks shape errs t} :
      evk k = some (.valid kw, tk) → evv v = some (.valid vw, tv) → hashable kw = true →
      MapRun evk evv rest (dictSet acc kw vw) out ks shape errs t →
      MapRun evk evv ((k, v) :: rest) acc out ks shape errs (tk ++ tv ++ t)
  | keyBad {k v rest acc out ke vw tk tv ks shape errs t} :
      evk k = some (.invalid ke, tk) → evv v = some (.valid vw, tv) →
      MapRun evk evv rest acc out ks shape errs t →
      MapRun evk evv ((k, v) :: rest) acc out (k :: ks) ((true, false) :: shape) (ke :: errs) (tk ++ tv ++ t)
  | valBad {k v rest acc out kw ve tk tv ks shape errs t} :
      evk k = some (.valid kw, tk) → evv v = some (.invalid ve, tv) →
      MapRun evk evv rest acc out ks shape errs t →
      MapRun evk evv ((k, v) :: rest) acc out (k :: ks) ((false, true) :: shape) (ve :: errs) (tk ++ tv ++ t)
  | bothBad {k v rest acc out ke ve tk tv ks shape errs t} :
      evk k = some (.invalid ke, tk) → evv v = some (.invalid ve, tv) →
      MapRun evk evv rest acc out ks shape errs t →
      MapRun evk evv ((k, v) :: rest) acc out (k :: ks) ((true, true) :: shape) (ke :: ve :: errs) (tk ++ tv ++ t)

/-- a `MapRun` is a pass of the loop (this direction is all the map theorems need) -/
theorem mapLoop_of_run {evk evv : Ev1} {kvs acc out ks shape errs t}
    (h : MapRun evk evv kvs acc out ks shape errs t) :
    mapLoop evk evv kvs acc = some ⟨out, ks, shape, errs, t, none⟩ := by
  refine MapL.loop ?_
  induction h with
  | nil acc => exact .nil acc
  | both hk hv hh _ ih => exact .stored hk hv hh ih
  | keyBad hk hv _ ih => exact .keyFailed hk hv ih
  | valBad hk hv _ ih => exact .valFailed hk hv ih
  | bothBad hk hv _ ih => exact .bothFailed hk hv ih

theorem C03_map_container_first {o m vid ps aps c x r} (h : mapPre o m vid ps aps c x = .inl r)
    (evk evv : Ev1) : mapStep o m vid ps aps c evk evv x = some r := by
  simp [mapStep, h]

/-- map: all pairs accepted → a new dict of (key payload ↦ value payload), merged as Python merges -/
theorem C03_map_accept (o : Oracle) (m : Mode) (vid : Nat) (ps aps : List Pred) (c : Option CoerceK)
    (evk evv : Ev1) (x y : PyVal) (kvs out : List (PyVal × PyVal)) (t0 t1 : List Ev)
    (hp : mapPre o m vid ps aps c x = .inr (y, kvs, t0)) (hrun : MapRun evk evv kvs [] out [] [] [] t1) :
    mapStep o m vid ps aps c evk evv x = some (.valid (.dict 0 out), t0 ++ t1) := by
  simp [mapStep, hp, mapLoop_of_run hrun, mapFinish]

/-- map: the error is keyed by the *original* keys of exactly the failing pairs, with separate key
    and value parts, each the child's own `Invalid`, holding the coerced dict -/
theorem C03_map_reject (o : Oracle) (m : Mode) (vid : Nat) (ps aps : List Pred) (c : Option CoerceK)
    (evk evv : Ev1) (x y : PyVal) (kvs out : List (PyVal × PyVal)) (t0 t1 : List Ev)
    (ks : List PyVal) (shape : List (Bool × Bool)) (errs : List Inv)
    (hp : mapPre o m vid ps aps c x = .inr (y, kvs, t0)) (hrun : MapRun evk evv kvs [] out ks shape errs t1)
    (hne : ks ≠ []) :
    mapStep o m vid ps aps c evk evv x = some (.invalid (.mk (.map ks shape) y vid errs), t0 ++ t1) := by
  cases ks with
  | nil => exact absurd rfl hne
  | cons k ks => simp [mapStep, hp, mapLoop_of_run hrun, mapFinish]

/-- `ks` lists exactly the failing pairs' original keys, in order -/
theorem MapRun.keys_exact {evk evv : Ev1} {kvs acc out ks shape errs t}
    (h : MapRun evk evv kvs acc out ks shape errs t) :
    ks = (kvs.filter (fun p =>
      !((match evk p.1 with | some (.valid _, _) => true | _ => false) &&
        (match evv p.2 with | some (.valid _, _) => true | _ => false)))).map Prod.fst := by
  induction h with
  | nil => rfl
  | both hk hv _ _ ih => rw [List.filter_cons_of_neg (by simp only [hk, hv]; decide)]; exact ih
  | keyBad hk hv _ ih => rw [List.filter_cons_of_pos (by simp only [hk, hv]; decide)]; exact congrArg _ ih
  | valBad hk hv _ ih => rw [List.filter_cons_of_pos (by simp only [hk, hv]; decide)]; exact congrArg _ ih
  | bothBad hk hv _ ih => rw [List.filter_cons_of_pos (by simp only [hk, hv]; decide)]; exact congrArg _ ih

/-- `[" a", 3, "bcd"]` against `ListValidator(StringValidator(MaxLength(2)))`: positions 1 and 2 -/
example :
    (run default (fun _ => .always 0) .sync 3
      (.list 1 (.scalar 2 .str none [] [⟨7, .maxLength 2⟩] []) [] [] none)
      (.list 9 [.str [32, 97], .int 3, .str [98, 99, 100]])).map (fun r => match r.1 with
        | .invalid (.mk (.index idx) _ _ ch) => (idx, ch.length)
        | _ => ([], 0)) = some ([1, 2], 2) := by rfl

end Koda
