/-
  C07, tied to the source for the identity-tested arms of `get_typehint_validator_base` (koda_validate/typehints.py):
  the fifteen leading arms — `annotation is str`, …, `annotation is Dict or annotation is dict` — are read from the
  current source on every run (`Src.typehintSimpleArms` in `Generated/PinsSrc.lean`: what the annotation is compared
  with, what is returned), and what each returns is what the model's `derive .dflt` builds for the annotation of that
  name.  (The generic arms — `origin`, `args` — and the record classes are pinned as text, `src_typehints_pinned`, and
  tied by the correspondence.)
-/
import KodaModel.Typehint
import KodaModel.Generated.PinsSrc

namespace Koda

/-- the annotation a name of typing / builtins denotes, as the model describes it -/
def annOfName : String → Option Ann
  | "str" => some .str | "int" => some .int | "float" => some .float
  | "None" => some .none | "type(None)" => some .none
  | "UUID" => some .uuid | "date" => some .date | "datetime" => some .datetime | "bool" => some .bool
  | "Decimal" => some .decimal | "bytes" => some .bytes | "Any" => some .any
  | "List" => some .listBare | "list" => some .listBare
  | "Set" => some .setBare | "set" => some .setBare
  | "Tuple" => some .tupleBare | "tuple" => some .tupleBare
  | "Dict" => some .dictBare | "dict" => some .dictBare
  | _ => none

/-- a derived validator without predicates, processors or a user coercer, written as the constructor call that builds it
    (default coercers are what the constructors of the UUID / date / datetime / Decimal / tuple validators install) -/
def showCtor : V → Option String
  | .always 1 => some "always_valid"
  | .noneV _ none => some "NoneValidator()"
  | .scalar _ .str none [] [] [] => some "StringValidator()"
  | .scalar _ .int none [] [] [] => some "IntValidator()"
  | .scalar _ .float none [] [] [] => some "FloatValidator()"
  | .scalar _ .bool none [] [] [] => some "BoolValidator()"
  | .scalar _ .bytes none [] [] [] => some "BytesValidator()"
  | .scalar _ .uuid (some .dflt) [] [] [] => some "UUIDValidator()"
  | .scalar _ .date (some .dflt) [] [] [] => some "DateValidator()"
  | .scalar _ .datetime (some .dflt) [] [] [] => some "DatetimeValidator()"
  | .scalar _ .decimal (some .dflt) [] [] [] => some "DecimalValidator()"
  | .list _ (.always 1) [] [] none => some "ListValidator(always_valid)"
  | .set _ (.always 1) [] [] none => some "SetValidator(always_valid)"
  | .utuple _ (.always 1) [] [] (some .dflt) => some "UniformTupleValidator(always_valid)"
  | .map _ (.always 1) (.always 1) [] [] none => some "MapValidator(key=always_valid, value=always_valid)"
  | _ => none

/-- **every identity-tested arm returns what the model derives**: for each arm of the current source and each name it
    tests, the default resolver's `derive` for the annotation of that name is the validator the arm's `return` constructs -/
theorem src_typehint_simple_arms :
    Src.typehintSimpleArms.all (fun row => row.1.all (fun n =>
      match annOfName n with
      | some a => showCtor ((derive .dflt a).run 0).1 == some row.2
      | none => false)) = true := by decide +kernel

/-- all fifteen arms are there (the chain has not lost one, nor gained one the model does not know) -/
theorem src_typehint_simple_arms_count : Src.typehintSimpleArms.length = 15 := by decide

/-! ### the signature resolver (`resolve_signature_typehint_default`, signature.py) -/

/-- as `showCtor`, for the validators the strict resolver builds: no coercer -/
def showCtorSig : V → Option String
  | .scalar _ .decimal none [] [] [] => some "DecimalValidator(coerce=None)"
  | .scalar _ .uuid none [] [] [] => some "UUIDValidator(coerce=None)"
  | .scalar _ .date none [] [] [] => some "DateValidator(coerce=None)"
  | .scalar _ .datetime none [] [] [] => some "DatetimeValidator(coerce=None)"
  | .utuple _ (.always 1) [] [] none => some "UniformTupleValidator(always_valid, coerce=None)"
  | _ => none

/-- the five identity-tested arms of the strict resolver return what `derive .signature` builds … -/
theorem src_sigresolver_simple_arms :
    Src.sigResolverSimpleArms.all (fun row => row.1.all (fun n =>
      match annOfName n with
      | some a => showCtorSig ((derive .signature a).run 0).1 == some row.2
      | none => false)) = true ∧ Src.sigResolverSimpleArms.length = 5 := by decide +kernel

/-- … and for every other name the base resolver has an arm for, the strict resolver has none of its own: it falls
    through to `get_typehint_validator_base`, and `derive .signature` is `derive .dflt` there -/
theorem src_sigresolver_falls_through :
    Src.typehintSimpleArms.all (fun row => row.1.all (fun n =>
      Src.sigResolverSimpleArms.any (fun r => r.1.contains n) ||
        (match annOfName n with
         | some a => showCtor ((derive .signature a).run 0).1 == some row.2
         | none => false))) = true := by decide +kernel

end Koda
