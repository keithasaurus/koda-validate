/-
  C10 — the generated schema is well-formed: every keyword the generator emits carries a value of the
  shape the Draft 2020-12 metaschema demands (`wf`): `type` a type name, `minLength` / `maxLength` /
  `minItems` / `maxItems` / `minProperties` / `maxProperties` non-negative integers, `minimum` … numbers,
  `pattern` / `format` / `description` / `$ref` strings, `uniqueItems` a boolean, `enum` an array,
  `required` an array of strings, `items` / `additionalProperties` / `additionalItems` schemas,
  `prefixItems` / `oneOf` / `allOf` non-empty arrays of schemas, `properties` an object of schemas.

  `C10_wellformed_partial`: for every validator tree whose length / count parameters are non-negative
  (finding D26 is the excluded case, `D26_witness`), whose numeric bounds are finite numbers (D11) and
  whose unions are non-empty, a returned schema is well-formed.  Not captured: uniqueness of the names
  in `required` (finding D27b), `$ref` resolution, the full metaschema (only the emitted keywords).
-/
import KodaModel.Properties.C10

namespace Koda

def isNonNegInt : J → Bool
  | .int i => decide (0 ≤ i)
  | _ => false

def isNumJ : J → Bool
  | .int _ => true
  | .float (.fin _ _ _) => true
  | _ => false

def isStrJ : J → Bool
  | .str _ => true
  | _ => false

def isBoolJ : J → Bool
  | .bool _ => true
  | _ => false

def isArrJ : J → Bool
  | .arr _ => true
  | _ => false

def isStrArrJ : J → Bool
  | .arr xs => xs.all isStrJ
  | _ => false

def isTypeName : J → Bool
  | .str s => s == kw "string" || s == kw "integer" || s == kw "number" || s == kw "boolean" || s == kw "array" ||
      s == kw "object" || s == kw "null"
  | _ => false

/-- keywords whose value is not a schema -/
def leafOK (k : List Nat) (v : J) : Bool :=
  if k == kw "minLength" || k == kw "maxLength" || k == kw "minItems" || k == kw "maxItems" ||
      k == kw "minProperties" || k == kw "maxProperties" then isNonNegInt v
  else if k == kw "minimum" || k == kw "maximum" || k == kw "exclusiveMinimum" || k == kw "exclusiveMaximum" then isNumJ v
  else if k == kw "type" then isTypeName v
  else if k == kw "pattern" || k == kw "format" || k == kw "description" || k == kw "$ref" then isStrJ v
  else if k == kw "uniqueItems" then isBoolJ v
  else if k == kw "enum" then isArrJ v
  else if k == kw "required" then isStrArrJ v
  else true

def isSchemaKw (k : List Nat) : Bool := k == kw "items" || k == kw "additionalProperties" || k == kw "additionalItems"
def isSchemaArrKw (k : List Nat) : Bool := k == kw "prefixItems" || k == kw "oneOf" || k == kw "allOf"

mutual
/-- well-formed schema (for the keywords the generator emits) -/
def wf : J → Bool
  | .bool _ => true
  | .obj o => wfO o
  | _ => false
termination_by structural j => j
def wfL : List J → Bool
  | [] => true
  | x :: xs => wf x && wfL xs
termination_by structural xs => xs
def wfO : List (List Nat × J) → Bool
  | [] => true
  | (k, v) :: rest =>
    (if isSchemaKw k then wf v
     else if isSchemaArrKw k then (match v with | .arr xs => !xs.isEmpty && wfL xs | _ => false)
     else if k == kw "properties" then (match v with | .obj ps => wfVals ps | _ => false)
     else leafOK k v) && wfO rest
termination_by structural kvs => kvs
def wfVals : List (List Nat × J) → Bool
  | [] => true
  | (_, v) :: rest => wf v && wfVals rest
termination_by structural kvs => kvs
end

def entryOK (k : List Nat) (v : J) : Bool :=
  if isSchemaKw k then wf v
  else if isSchemaArrKw k then (match v with | .arr xs => !xs.isEmpty && wfL xs | _ => false)
  else if k == kw "properties" then (match v with | .obj ps => wfVals ps | _ => false)
  else leafOK k v

theorem wfO_cons (k : List Nat) (v : J) (rest : List (List Nat × J)) :
    wfO ((k, v) :: rest) = (entryOK k v && wfO rest) := by
  cases v <;> rfl

theorem wfO_nil : wfO [] = true := rfl

theorem wfO_single (k : List Nat) (v : J) : wfO [(k, v)] = entryOK k v := by
  rw [wfO_cons, wfO_nil, Bool.and_true]

theorem wfL_eq_all (xs : List J) : wfL xs = xs.all wf := by
  induction xs with
  | nil => rfl
  | cons x xs ih => rw [wfL, ih, List.all_cons]

theorem wfO_eq_all (o : JObj) : wfO o = o.all (fun p => entryOK p.1 p.2) := by
  induction o with
  | nil => rfl
  | cons x xs ih => rw [wfO_cons, ih, List.all_cons]

theorem wfVals_eq_all (o : JObj) : wfVals o = o.all (fun p => wf p.2) := by
  induction o with
  | nil => rfl
  | cons x xs ih => rw [wfVals, ih, List.all_cons]

/-! The keywords are closed strings: each lemma is the evaluation of `entryOK` at one class of them (`kw_beq`). -/

theorem entryOK_schema (k : String) (hk : k = "items" ∨ k = "additionalProperties" ∨ k = "additionalItems") (v : J) :
    entryOK (kw k) v = wf v := by
  rcases hk with rfl | rfl | rfl <;> simp [entryOK, isSchemaKw, kw_beq]

theorem entryOK_schemaArr (k : String) (hk : k = "prefixItems" ∨ k = "oneOf" ∨ k = "allOf") (xs : List J) :
    entryOK (kw k) (.arr xs) = (!xs.isEmpty && wfL xs) := by
  rcases hk with rfl | rfl | rfl <;> simp [entryOK, isSchemaKw, isSchemaArrKw, kw_beq]

theorem entryOK_properties (ps : JObj) : entryOK (kw "properties") (.obj ps) = wfVals ps := by
  simp [entryOK, isSchemaKw, isSchemaArrKw, kw_beq]

theorem entryOK_nonneg (k : String)
    (hk : k = "minLength" ∨ k = "maxLength" ∨ k = "minItems" ∨ k = "maxItems" ∨ k = "minProperties" ∨ k = "maxProperties")
    (v : J) : entryOK (kw k) v = isNonNegInt v := by
  rcases hk with rfl | rfl | rfl | rfl | rfl | rfl <;> simp [entryOK, isSchemaKw, isSchemaArrKw, leafOK, kw_beq]

theorem entryOK_num (k : String)
    (hk : k = "minimum" ∨ k = "maximum" ∨ k = "exclusiveMinimum" ∨ k = "exclusiveMaximum") (v : J) :
    entryOK (kw k) v = isNumJ v := by
  rcases hk with rfl | rfl | rfl | rfl <;> simp [entryOK, isSchemaKw, isSchemaArrKw, leafOK, kw_beq]

theorem entryOK_type (v : J) : entryOK (kw "type") v = isTypeName v := by
  simp [entryOK, isSchemaKw, isSchemaArrKw, leafOK, kw_beq]

theorem isTypeName_kw (s : String)
    (hs : s = "string" ∨ s = "integer" ∨ s = "number" ∨ s = "boolean" ∨ s = "array" ∨ s = "object") :
    isTypeName (.str (kw s)) = true := by
  rcases hs with rfl | rfl | rfl | rfl | rfl | rfl <;> simp [isTypeName, kw_beq]

theorem entryOK_str (k : String) (hk : k = "pattern" ∨ k = "format" ∨ k = "description" ∨ k = "$ref") (v : J) :
    entryOK (kw k) v = isStrJ v := by
  rcases hk with rfl | rfl | rfl | rfl <;> simp [entryOK, isSchemaKw, isSchemaArrKw, leafOK, kw_beq]

theorem entryOK_unique (v : J) : entryOK (kw "uniqueItems") v = isBoolJ v := by
  simp [entryOK, isSchemaKw, isSchemaArrKw, leafOK, kw_beq]

theorem entryOK_enum (v : J) : entryOK (kw "enum") v = isArrJ v := by
  simp [entryOK, isSchemaKw, isSchemaArrKw, leafOK, kw_beq]

theorem entryOK_required (v : J) : entryOK (kw "required") v = isStrArrJ v := by
  simp [entryOK, isSchemaKw, isSchemaArrKw, leafOK, kw_beq]

theorem entryOK_free (k : String)
    (hk : k = "nullable" ∨ k = "formatMinimum" ∨ k = "formatExclusiveMinimum" ∨ k = "formatMaximum" ∨
      k = "formatExclusiveMaximum") (v : J) : entryOK (kw k) v = true := by
  rcases hk with rfl | rfl | rfl | rfl | rfl <;> simp [entryOK, isSchemaKw, isSchemaArrKw, leafOK, kw_beq]

theorem allOfClosed_entryOK : AllOfClosed (fun p => entryOK p.1 p.2) := by
  intro b xs hb hx
  have hxs : xs.all wf = true := by
    rcases hx with rfl | hx
    · rfl
    · simp only [entryOK_schemaArr "allOf" (.inr (.inr rfl)), wfL_eq_all, Bool.and_eq_true] at hx
      exact hx.2
  rw [← wfO_eq_all] at hb
  simp [entryOK_schemaArr "allOf" (.inr (.inr rfl)), wfL_eq_all, hxs, wf, hb]

theorem wfO_jaddPred (a b : JObj) (ha : wfO a = true) (hb : wfO b = true) : wfO (jaddPred a b) = true := by
  rw [wfO_eq_all] at *
  exact all_jaddPred _ allOfClosed_entryOK a b ha hb

/-- a Min / Max parameter: a finite number, or one of the "format" types -/
def boundNum : PyVal → Bool
  | .int _ => true
  | .float (.fin _ _ _) => true
  | .decimal _ => true
  | .date _ => true
  | .datetime _ _ => true
  | _ => false

def PredK.wfSafe : PredK → Bool
  | .minLength n => decide (0 ≤ n)
  | .maxLength n => decide (0 ≤ n)
  | .exactLength n => decide (0 ≤ n)
  | .minItems n => decide (0 ≤ n)
  | .maxItems n => decide (0 ≤ n)
  | .minKeys n => decide (0 ≤ n)
  | .maxKeys n => decide (0 ≤ n)
  | .min v _ => boundNum v
  | .max v _ => boundNum v
  | _ => true

mutual
/-- length / count parameters non-negative, numeric bounds finite numbers, unions non-empty -/
def V.wfSafe : V → Bool
  | .scalar _ _ _ _ ps aps => (ps ++ aps).all (fun p => p.k.wfSafe)
  | .list _ item ps aps _ => item.wfSafe && (ps ++ aps).all (fun p => p.k.wfSafe)
  | .utuple _ item ps aps _ => item.wfSafe && (ps ++ aps).all (fun p => p.k.wfSafe)
  | .ntuple _ fs _ _ _ => V.wfSafeL fs
  | .map _ _ v ps aps _ => v.wfSafe && (ps ++ aps).all (fun p => p.k.wfSafe)
  | .record _ _ vs => V.wfSafeL vs
  | .union _ vs => !vs.isEmpty && V.wfSafeL vs
  | .optional _ _ inner => inner.wfSafe
  | .knr _ inner => inner.wfSafe
  | _ => true
termination_by structural v => v
def V.wfSafeL : List V → Bool
  | [] => true
  | v :: vs => v.wfSafe && V.wfSafeL vs
termination_by structural vs => vs
end

/-- `a`, `b` stand for the numeric bound keywords, `c`, `d` for the unconstrained "format" ones -/
theorem boundSchema_wf (pr : Printer) (v : PyVal) (excl : Bool) (a b c d : String) (o : JObj)
    (hab : ∀ j, entryOK (kw a) j = isNumJ j ∧ entryOK (kw b) j = isNumJ j)
    (hcd : ∀ j, entryOK (kw c) j = true ∧ entryOK (kw d) j = true)
    (hv : boundNum v = true) (h : boundSchema pr v excl a b c d = .ok o) : wfO o = true := by
  rcases boundSchema_ok h with ⟨_, t, rfl⟩ | ⟨hfmt, rfl⟩ <;> rw [wfO_single]
  · cases excl
    · exact (hcd _).2
    · exact (hcd _).1
  · have hnum : isNumJ (rawJ v) = true := by
      cases v with
      | int i => rfl
      | float f => cases f <;> first | rfl | cases hv
      | decimal _ | date _ | datetime _ _ => cases hfmt
      | _ => cases hv
    cases excl
    · exact (hab _).2.trans hnum
    · exact (hab _).1.trans hnum

theorem predSchema_wf (pr : Printer) (p : PredK) (o : JObj) (hp : p.wfSafe = true)
    (h : predSchema pr p = .ok o) : wfO o = true := by
  cases p with
  | min v e | max v e =>
    exact boundSchema_wf pr v e _ _ _ _ o (fun j => ⟨entryOK_num _ (by simp) j, entryOK_num _ (by simp) j⟩)
      (fun j => ⟨entryOK_free _ (by simp) j, entryOK_free _ (by simp) j⟩) hp h
  | equalTo v =>
    simp only [predSchema] at h
    split at h <;> cases h
    rw [wfO_single, entryOK_enum]; rfl
  | choices vs =>
    simp only [predSchema] at h
    split at h
    · split at h <;> cases h
      rw [wfO_single, entryOK_enum]; rfl
    · cases h
  | startsWith q =>
    obtain ⟨s, rfl⟩ := predSchema_affix pr q o (.inl h)
    rw [wfO_single, entryOK_str _ (by simp)]; rfl
  | endsWith q =>
    obtain ⟨s, rfl⟩ := predSchema_affix pr q o (.inr h)
    rw [wfO_single, entryOK_str _ (by simp)]; rfl
  | multipleOf _ | exactItemCount _ | user _ => cases h
  | email | notBlank | regex _ => cases h; rw [wfO_single, entryOK_str _ (by simp)]; rfl
  | uniqueItems => cases h; rw [wfO_single, entryOK_unique]; rfl
  | minLength n | maxLength n | minItems n | maxItems n | minKeys n | maxKeys n =>
    cases h; rw [wfO_single, entryOK_nonneg _ (by simp)]; exact hp
  | exactLength n =>
    cases h
    rw [wfO_cons, wfO_single, entryOK_nonneg _ (by simp), entryOK_nonneg _ (by simp), Bool.and_self]; exact hp

theorem predsSchema_wf (pr : Printer) (ps : List Pred) (base o : JObj)
    (hps : ps.all (fun p => p.k.wfSafe) = true) (hb : wfO base = true) (h : predsSchema pr base ps = .ok o) :
    wfO o = true := by
  rw [wfO_eq_all] at hb ⊢
  exact all_predsSchema pr _ allOfClosed_entryOK PredK.wfSafe
    (fun p o hp h => wfO_eq_all o ▸ predSchema_wf pr p o hp h) ps base o hps hb h

theorem baseSchema_wf (t : Ty) (o : JObj) (h : baseSchema t = .ok o) : wfO o = true := by
  cases t <;> cases h <;> simp [wfO_cons, wfO_nil, entryOK_type, isTypeName_kw, entryOK_str, isStrJ]

mutual
/-- **C10 (well-formed schema), partial**: see the header -/
theorem C10_wellformed_partial (pr : Printer) (ctx : RefCtx) (tvs nrs : List Nat) :
    ∀ (v : V) (j : J), v.wfSafe = true → toSchema pr ctx tvs nrs v = .ok j → wf j = true := by
  intro v j hs h
  cases v with
  | scalar vid tg c pre ps aps =>
    simp only [toSchema] at h
    split at h
    · cases h
    · simp only [bind_eq_ok, Except.ok.injEq] at h
      obtain ⟨b, hb, o, hp, rfl⟩ := h
      exact predsSchema_wf pr _ b o hs (baseSchema_wf tg b hb) hp
  | equals vid m pre pid =>
    simp only [toSchema, bind_eq_ok, Except.ok.injEq] at h
    obtain ⟨b, hb, o, hp, rfl⟩ := h
    rw [wf, wfO_eq_all]
    exact all_jupdate _ o b (wfO_eq_all b ▸ baseSchema_wf _ b hb) (wfO_eq_all o ▸ predSchema_wf pr (.equalTo m) o rfl hp)
  | noneV _ _ | always _ | set _ _ _ _ _ | maybe _ _ | user _ _ => cases h
  | isDict _ =>
    cases h
    simp [wf, wfO_single, entryOK_type, isTypeName_kw]
  | list vid item ps aps c | utuple vid item ps aps c =>
    simp only [toSchema, bind_eq_ok, Except.ok.injEq] at h
    obtain ⟨it, hi, o, hp, rfl⟩ := h
    simp only [V.wfSafe, Bool.and_eq_true] at hs
    have hit := C10_wellformed_partial pr ctx tvs nrs item it hs.1 hi
    exact predsSchema_wf pr _ _ o hs.2 (by simp [wfO_cons, wfO_nil, entryOK_type, isTypeName_kw, entryOK_schema, hit]) hp
  | ntuple vid fs oc lp c =>
    simp only [toSchema, bind_eq_ok, Except.ok.injEq] at h
    obtain ⟨items, hi, rfl⟩ := h
    have hit := C10_wellformed_partialL pr ctx tvs nrs fs items hs hi
    rw [wf, wfO_eq_all, List.all_append]
    split <;> simp [entryOK_str, isStrJ, entryOK_type, isTypeName_kw, entryOK_schema, entryOK_nonneg, isNonNegInt, entryOK_schemaArr, wf, *]
  | map vid key value ps aps c =>
    simp only [toSchema, bind_eq_ok, Except.ok.injEq] at h
    obtain ⟨it, hi, o, hp, rfl⟩ := h
    simp only [V.wfSafe, Bool.and_eq_true] at hs
    have hit := C10_wellformed_partial pr ctx tvs nrs value it hs.1 hi
    exact predsSchema_wf pr _ _ o hs.2
      (by simp [wfO_cons, wfO_nil, entryOK_type, isTypeName_kw, entryOK_schema, hit]) hp
  | record vid cfg vs =>
    simp only [toSchema, bind_eq_ok] at h
    obtain ⟨props, hi, h⟩ := h
    have hit := C10_wellformed_partialL pr ctx tvs nrs vs props hs hi
    split at h
    · cases h
    · rename_i labels _
      cases h
      have hprops := all_jupdate _ (labels.zip props) [] rfl (all_zip_snd wf labels props (wfL_eq_all props ▸ hit))
      rw [← wfVals_eq_all] at hprops
      simp only [wf, wfO_cons, wfO_nil, Bool.and_true, Bool.and_eq_true]
      refine ⟨?_, entryOK_schema _ (by simp) _, ?_, ?_⟩
      · rw [entryOK_type]; exact isTypeName_kw _ (by simp)
      · rw [entryOK_required]; simp [isStrArrJ, isStrJ]
      · rw [entryOK_properties]; exact hprops
  | union vid vs =>
    simp only [toSchema, bind_eq_ok, Except.ok.injEq] at h
    obtain ⟨items, hi, rfl⟩ := h
    simp only [V.wfSafe, Bool.and_eq_true] at hs
    have hit := C10_wellformed_partialL pr ctx tvs nrs vs items hs.2 hi
    have hne : items.isEmpty = false := by
      cases vs with
      | nil => simp at hs
      | cons v vs' =>
        simp only [toSchemaL, bind_eq_ok, Except.ok.injEq] at hi
        obtain ⟨s, _, ss, _, rfl⟩ := hi
        rfl
    simp [wf, wfO_cons, wfO_nil, entryOK_schemaArr, hit, hne]
  | optional vid nv inner =>
    simp only [toSchema, bind_eq_ok] at h
    obtain ⟨it, hi, h⟩ := h
    have hit := C10_wellformed_partial pr ctx tvs nrs inner it hs hi
    split at h
    · cases h
      rw [wf, wfO_eq_all] at hit ⊢
      exact all_jset _ _ _ _ hit (entryOK_free _ (by simp) _)
    · cases h
  | lazy vid ref =>
    simp only [toSchema] at h
    cases ctx with
    | none => simp at h
    | some r =>
      simp only [] at h
      split at h <;> cases h
      · rfl
      · simp [wf, wfO_single, entryOK_str, isStrJ]
  | knr vid inner => exact C10_wellformed_partial pr ctx tvs nrs inner j hs h
theorem C10_wellformed_partialL (pr : Printer) (ctx : RefCtx) (tvs nrs : List Nat) :
    ∀ (vs : List V) (js : List J), V.wfSafeL vs = true → toSchemaL pr ctx tvs nrs vs = .ok js → wfL js = true
  | [], js, _, h => by cases h; rfl
  | v :: vs, js, hs, h => by
    simp only [toSchemaL, bind_eq_ok, Except.ok.injEq] at h
    obtain ⟨s, hv, ss, hr, rfl⟩ := h
    simp only [V.wfSafeL, Bool.and_eq_true] at hs
    simp [wfL, C10_wellformed_partial pr ctx tvs nrs v s hs.1 hv,
      C10_wellformed_partialL pr ctx tvs nrs vs ss hs.2 hr]
end

/-- finding D26: `StringValidator(MinLength(n))` with `n < 0` gets `minLength: n`, which is not well-formed -/
theorem minLength_neg_not_wf (n : Int) (hn : n < 0) :
    toSchema trivialPrinter none [] [] (.scalar 1 .str none [] [⟨1, .minLength n⟩] []) =
      .ok (.obj [(kw "type", .str (kw "string")), (kw "minLength", .int n)]) ∧
    wf (.obj [(kw "type", .str (kw "string")), (kw "minLength", .int n)]) = false :=
  ⟨rfl, by simp [wf, wfO_cons, entryOK_nonneg, isNonNegInt, Int.not_le.2 hn]⟩

theorem D26_witness :
    toSchema trivialPrinter none [] [] (.scalar 1 .str none [] [⟨1, .minLength (-1)⟩] []) =
      .ok (.obj [(kw "type", .str (kw "string")), (kw "minLength", .int (-1))]) ∧
    wf (.obj [(kw "type", .str (kw "string")), (kw "minLength", .int (-1))]) = false :=
  minLength_neg_not_wf (-1) (by decide)

example : (V.list 1 (.union 2 [.scalar 3 .str none [] [⟨1, .minLength 1⟩] [], .scalar 4 .int none [] [⟨2, .min (.int 0) true⟩] []])
    [⟨3, .maxItems 5⟩] [] none).wfSafe = true := by decide

end Koda
