/-
  C16 — Default coercions accept exactly the declared sources and parse like the stdlib.

  The stdlib parsers are an abstract `Oracle`; every theorem holds for every oracle.  (In the driver
  the oracle is the table of what the real constructors return for the strings of the case.)
-/
import KodaModel.Eval

namespace Koda

/-- **Decimal**: an exact `Decimal` unchanged; a `str` (or subclass) that `Decimal(str)` parses, as
    parsed; an `int` (bool included, as the code has it) exactly; nothing else. -/
theorem C16_decimal (o : Oracle) (x : PyVal) :
    defaultCoerce o .decimal x =
      if x.ty = .decimal then some x
      else match strLike x with
        | some s => o.decimal s
        | none => match intLike x with
          | some i => some (decOfInt i)
          | none => none := rfl

/-- **UUID**: an exact `UUID` unchanged; an exact `str` that `UUID(str)` parses; nothing else -/
theorem C16_uuid (o : Oracle) (x : PyVal) :
    defaultCoerce o .uuid x =
      if x.ty = .uuid then some x else match x with | .str s => o.uuid s | _ => none := rfl

/-- **date**: an exact `date` unchanged; a string `date.fromisoformat` parses; nothing else -/
theorem C16_date (o : Oracle) (x : PyVal) :
    defaultCoerce o .date x =
      if x.ty = .date then some x else match strLike x with | some s => o.date s | none => none := rfl

theorem C16_datetime (o : Oracle) (x : PyVal) :
    defaultCoerce o .datetime x =
      if x.ty = .datetime then some x else match strLike x with | some s => o.datetime s | none => none := rfl

/-- **tuples**: an exact `tuple` unchanged (same object), an exact `list` converted; nothing else -/
theorem C16_tuple (o : Oracle) (x : PyVal) :
    defaultCoerce o .tuple x =
      match x with | .tuple _ _ => some x | .list _ xs => some (.tuple 0 xs) | _ => none := rfl

/-- floats and bytes are never coerced; a datetime is not a date; a date is not a datetime -/
theorem C16_never (o : Oracle) (f : FloatV) (b : List Nat) (us : Int) (off : Option Int) (d : Nat) :
    defaultCoerce o .decimal (.float f) = none ∧ defaultCoerce o .decimal (.bytes b) = none ∧
    defaultCoerce o .uuid (.bytes b) = none ∧ defaultCoerce o .uuid (.int 5) = none ∧
    defaultCoerce o .date (.bytes b) = none ∧ defaultCoerce o .date (.datetime us off) = none ∧
    defaultCoerce o .datetime (.date d) = none ∧ defaultCoerce o .datetime (.bytes b) = none ∧
    defaultCoerce o .tuple (.set 0 []) = none :=
  ⟨rfl, rfl, rfl, rfl, rfl, rfl, rfl, rfl, rfl⟩

/-- subclasses of the target type are rejected (they are not *exactly* the target) — shown for a
    tuple subclass, whose instances are not coerced either -/
theorem C16_subclass_rejected (o : Oracle) (c : ClassId) (oid : Nat) (xs : List PyVal) :
    defaultCoerce o .tuple (.sub c (.tuple oid xs)) = none := rfl

/-- the scalar validator with its default coercer: accepted values and the rejection -/
theorem C16_validator (o : Oracle) (m : Mode) (vid : Nat) (tg : Ty) (x : PyVal) :
    scalarStep o m vid tg (some .dflt) [] [] [] x =
      match defaultCoerce o tg x with
      | some y => (.valid y, [])
      | none => (.invalid (.mk (.coercion (defaultCompat tg) tg) x vid []), []) := by
  unfold scalarStep gate applyCoerce
  cases defaultCoerce o tg x <;> cases m <;> rfl

theorem C16_compat :
    defaultCompat .decimal = [.str, .int, .decimal] ∧ defaultCompat .uuid = [.str, .uuid] ∧
    defaultCompat .date = [.str, .date] ∧ defaultCompat .datetime = [.str, .datetime] ∧
    defaultCompat .tuple = [.list, .tuple] := ⟨rfl, rfl, rfl, rfl, rfl⟩

/-- **canonical text round-trips** (stated for `Decimal`): if the parser inverts the printer (a law of
    the stdlib pair `str` / `Decimal`), validating the canonical text of a `Decimal` yields that value -/
theorem C16_roundtrip (o : Oracle) (m : Mode) (vid : Nat) (print : PyVal → List Nat) (d : PyVal)
    (law : o.decimal (print d) = some d) :
    scalarStep o m vid .decimal (some .dflt) [] [] [] (.str (print d)) = (.valid d, []) := by
  rw [C16_validator, show defaultCoerce o .decimal (.str (print d)) = o.decimal (print d) from rfl, law]

/-- non-vacuity: an oracle that parses "1.5" -/
example : defaultCoerce { (default : Oracle) with decimal := fun s => if s = [49, 46, 53] then some (.decimal (.fin false 15 (-1))) else none }
    .decimal (.str [49, 46, 53]) = some (.decimal (.fin false 15 (-1))) := by rfl

end Koda
