/-
  C11, whole trees: for every validator tree of the fragment `frag` and every JSON value, the generated schema accepts
  the value iff the validator does, under the side conditions `ok` (what the *code* needs: typed predicates, and the
  agreement conditions that findings D13 / D14 / D15 violate).  `Lazy` nodes refer to a named validator; `A` is what
  it accepts, `O` its side conditions, `L` the fuel from which a `$ref` to it is decided.  `C11_tree_partial` assumes
  the named validator correct on smaller values; `C11_named_tree_partial` closes the recursion.
-/
import KodaModel.Properties.C11Nodes

namespace Koda.Rec
open Koda

mutual
/-- validator trees covered by the whole-tree theorem: string / integer / float / boolean validators without
    coercer, preprocessors and async predicates; equality validators of those types without preprocessors; lists
    and string-keyed maps without coercer, uniform tuples with the default coercer, none with async predicates;
    n-tuples with the default coercer and no whole-object check; records as `recCfgOK` says; unions; optionals over
    the plain `None` validator; key-not-required wrappers — nested at will; a reference to the named validator
    (`Lazy`, reference 0) where `gd` says it is guarded, i.e. below a container -/
def frag (gd : Bool) : V → Bool
  | .scalar _ tg c pre _ aps => (typeName tg).isSome && c.isNone && pre.isEmpty && aps.isEmpty
  | .list _ item _ aps c => c.isNone && aps.isEmpty && frag true item
  | .union _ vs => fragL gd vs
  | .optional _ nv inner => isDefaultNone nv && frag gd inner
  | .knr _ inner => frag gd inner
  | .ntuple _ fs oc c _ => oc.isNone && isDfltCoerce c && fragL true fs
  | .record _ cfg vs => recCfgOK cfg vs.length && fragL true vs
  | .map _ kv vv _ aps c => c.isNone && aps.isEmpty && isPlainStrV kv && frag true vv
  | .equals _ m pre _ => pre.isEmpty && (typeName m.ty).isSome
  | .utuple _ item _ aps c => isDfltCoerce c && aps.isEmpty && frag true item
  | .lazy _ ref => gd && ref == 0
  | _ => false
termination_by structural v => v
def fragL (gd : Bool) : List V → Bool
  | [] => true
  | v :: vs => frag gd v && fragL gd vs
termination_by structural vs => vs
end

mutual
/-- what it means for `x` to be acceptable to the tree (the specification both sides are proved against);
    `A`: what is acceptable to the named validator a `Lazy` refers to -/
def acc (A : PyVal → Bool) : V → PyVal → Bool
  | .scalar _ tg _ _ ps _, x => decide (x.ty = tg) && ps.all (fun p => holds p.k x)
  | .list _ item ps _ _, x => isListV x && ((listItems x).all (fun y => acc A item y) && ps.all (fun p => holds p.k x))
  | .union _ vs, x => accAny A vs x
  | .optional _ _ inner, x => isNoneV x || acc A inner x
  | .knr _ inner, x => acc A inner x
  | .ntuple _ fs _ _ _, x => isListV x && (decide ((listItems x).length = fs.length) && accZip A fs (listItems x))
  | .record _ cfg vs, x =>
    isDictV x && ((dictKvs x).all (fun p => memL p.1 cfg.keys || !cfg.failUnknown) &&
      accFields A cfg.keys cfg.reqs vs (dictKvs x))
  | .map _ _ vv ps _ _, x =>
    isDictV x && ((dictKvs x).all (fun p => acc A vv p.2) && ps.all (fun p => holds p.k x))
  | .equals _ m _ _, x => decide (x.ty = m.ty) && holds (.equalTo m) x
  | .utuple _ item ps _ _, x => isListV x && ((listItems x).all (fun y => acc A item y) && ps.all (fun p => holds p.k x))
  | .lazy _ _, x => A x
  | _, _ => false
termination_by structural v => v
def accAny (A : PyVal → Bool) : List V → PyVal → Bool
  | [], _ => false
  | v :: vs, x => acc A v x || accAny A vs x
termination_by structural vs => vs
/-- position by position (over the common prefix, like `zip`) -/
def accZip (A : PyVal → Bool) : List V → List PyVal → Bool
  | v :: vs, y :: ys => acc A v y && accZip A vs ys
  | _, _ => true
termination_by structural vs => vs
def accFields (A : PyVal → Bool) : List PyVal → List Bool → List V → List (PyVal × PyVal) → Bool
  | k :: ks, r :: rs, v :: vs, kvs =>
    (match dictGet kvs k with | some xv => acc A v xv | none => !r) && accFields A ks rs vs kvs
  | _, _, _, _ => true
termination_by structural _ _ vs => vs
end

def countAcc (A : PyVal → Bool) : List V → PyVal → Nat
  | [], _ => 0
  | v :: vs, x => (if acc A v x then 1 else 0) + countAcc A vs x

mutual
/-- the side conditions, at every position of the value: predicates are used on values of their kind
    with parameters of that kind; pattern and predicate agree where they can differ (D13, D15); JSON
    uniqueness agrees with the predicate's; at most one union variant is acceptable (D14); `O`: the side
    conditions of the named validator a `Lazy` refers to -/
def ok (A O : PyVal → Bool) : V → PyVal → Bool
  | .scalar _ tg _ _ ps _, x => !(decide (x.ty = tg)) || ps.all (fun p => predCheck p.k x)
  | .list _ item ps _ _, x => !(isListV x) || (ps.all (fun p => predCheck p.k x) && (listItems x).all (fun y => ok A O item y))
  | .union _ vs, x => okAll A O vs x && decide (countAcc A vs x ≤ 1)
  | .optional _ _ inner, x => isNoneV x || ok A O inner x
  | .knr _ inner, x => ok A O inner x
  | .ntuple _ fs _ _ _, x => !(isListV x) || okZip A O fs (listItems x)
  | .record _ cfg vs, x => okFields A O cfg.keys vs (dictKvs x)
  | .map _ _ vv ps _ _, x =>
    !(isDictV x) || (ps.all (fun p => predCheck p.k x) && (dictKvs x).all (fun p => ok A O vv p.2))
  | .utuple _ item ps _ _, x => !(isListV x) || (ps.all (fun p => predCheck p.k x) && (listItems x).all (fun y => ok A O item y))
  | .lazy _ _, x => O x
  | _, _ => true
termination_by structural v => v
def okAll (A O : PyVal → Bool) : List V → PyVal → Bool
  | [], _ => true
  | v :: vs, x => ok A O v x && okAll A O vs x
termination_by structural vs => vs
def okZip (A O : PyVal → Bool) : List V → List PyVal → Bool
  | v :: vs, y :: ys => ok A O v y && okZip A O vs ys
  | _, _ => true
termination_by structural vs => vs
def okFields (A O : PyVal → Bool) : List PyVal → List V → List (PyVal × PyVal) → Bool
  | k :: ks, v :: vs, kvs =>
    (match dictGet kvs k with | some xv => ok A O v xv | none => true) && okFields A O ks vs kvs
  | _, _, _ => true
termination_by structural _ vs => vs
end

mutual
/-- fuel from which the schema of the tree is decided; `L`: fuel from which a reference to the named schema is -/
def sfuel (L : Nat) : V → Nat
  | .list _ item _ _ _ => max (sfuel L item) 1 + 1
  | .union _ vs => sfuelL L vs + 1
  | .optional _ _ inner => max (sfuel L inner) 1
  | .knr _ inner => sfuel L inner
  | .ntuple _ fs _ _ _ => sfuelL L fs + 1
  | .record _ _ vs => max (sfuelL L vs) 1 + 1
  | .map _ _ vv _ _ _ => max (sfuel L vv) 1 + 1
  | .utuple _ item _ _ _ => max (sfuel L item) 1 + 1
  | .lazy _ _ => max L 2
  | _ => 2
termination_by structural v => v
def sfuelL (L : Nat) : List V → Nat
  | [] => 0
  | v :: vs => max (sfuel L v) (sfuelL L vs)
termination_by structural vs => vs
end

variable {A O : PyVal → Bool} {L : Nat} {gd : Bool} {ctx : RefCtx} {Bd : PyVal → Prop}

def TreeOK (A O : PyVal → Bool) (L : Nat) (ctx : RefCtx) (Bd : PyVal → Prop) (pr : Printer) (o : Oracle) (env : Nat → V) (root : J) (v : V) : Prop :=
  ∀ (x : PyVal), isJson x = true → Bd x → ok A O v x = true →
    VDecides o env v x (acc A v x) ∧
    ∀ j, toSchema pr ctx [] [] v = .ok j → DecidesAt root ctx j (sfuel L v) x (acc A v x)

/-- the values a subtree may be applied to, in terms of the budget `B` of the named validator: anything of size
    `≤ B` at an unguarded position (the root), of size `< B` once a container has been entered -/
def BdP (B : Nat) (gd : Bool) (x : PyVal) : Prop := sizeOf x < B + (if gd then 0 else 1)

theorem BdP_child {B : Nat} {gd : Bool} {x y : PyVal} (h : BdP B gd x) (hlt : sizeOf y < sizeOf x) : BdP B true y := by
  unfold BdP at *
  cases gd <;> simp at h ⊢ <;> omega

theorem sfuel_le_sfuelL (v : V) : ∀ (vs : List V), v ∈ vs → sfuel L v ≤ sfuelL L vs
  | [], h => by simp at h
  | w :: ws, h => by
    simp only [sfuelL]
    rcases List.mem_cons.1 h with rfl | h
    · omega
    · have := sfuel_le_sfuelL v ws h; omega

/-- the schema of `EqualsValidator(m)` is the schema of the scalar validator of `m`'s type with `EqualTo(m)` -/
theorem equals_schema_eq (pr : Printer) (cx : RefCtx) (vid pid : Nat) (m : PyVal) (t : String) (ht : typeName m.ty = some t) :
    toSchema pr cx [] [] (.equals vid m [] pid) =
      toSchema pr cx [] [] (.scalar vid m.ty none [] [⟨pid, .equalTo m⟩] []) := by
  simp only [toSchema, List.contains_nil, Bool.false_eq_true, if_false, baseSchema_frag m.ty t ht, bind, Except.bind,
    List.append_nil, predsSchema]
  cases hp : predSchema pr (.equalTo m) with
  | error e => rfl
  | ok po =>
    simp only
    obtain ⟨h1, _, _, _, _, _⟩ := predSchema_keys pr (.equalTo m) po hp
    have hfresh : ∀ p ∈ po, hasKey [(kw "type", J.str (kw t))] p.1 = false := by
      intro p hp'
      simp only [hasKey, List.any_cons, List.any_nil, Bool.or_false]
      apply Bool.eq_false_iff.2
      intro hh
      have : hasKey po (kw "type") = true := by
        simp only [hasKey, List.any_eq_true]
        exact ⟨p, hp', by rw [Bool.beq_comm]; exact hh⟩
      simp [this] at h1
    rw [jaddPred_noclash _ _ hfresh]

def SchemasDecide (A : PyVal → Bool) (root : J) (ref : Option (List Nat)) : List V → List J → PyVal → Nat → Prop
  | [], [], _, _ => True
  | v :: vs, j :: js, x, N => DecidesAt root ref j N x (acc A v x) ∧ SchemasDecide A root ref vs js x N
  | _, _, _, _ => False

theorem SchemasDecide.mono {root : J} {ref : Option (List Nat)} : ∀ {vs : List V} {js : List J} {x : PyVal} {N M : Nat},
    SchemasDecide A root ref vs js x N → N ≤ M → SchemasDecide A root ref vs js x M
  | [], [], _, _, _, _, _ => trivial
  | _ :: _, _ :: _, _, _, _, h, hm => ⟨h.1.mono hm, h.2.mono hm⟩
  | [], _ :: _, _, _, _, h, _ => h.elim
  | _ :: _, [], _, _, _, h, _ => h.elim

theorem SchemasDecide.count {root : J} {ref : Option (List Nat)} (N : Nat) (x : PyVal) :
    ∀ (vs : List V) (js : List J), SchemasDecide A root ref vs js x N →
      (∀ j ∈ js, DecidesAt root ref j N x (evalSchema root ref N j x == some true)) ∧
      js.countP (fun j => evalSchema root ref N j x == some true) = countAcc A vs x
  | [], [], _ => ⟨fun _ hj => (nomatch hj), rfl⟩
  | v :: vs, j :: js, h => by
    obtain ⟨h1, h2⟩ := SchemasDecide.count N x vs js h.2
    refine ⟨fun j' hj' => ?_, ?_⟩
    · rcases List.mem_cons.1 hj' with rfl | hj'
      · rw [h.1.beq_true]; exact h.1
      · exact h1 j' hj'
    · simp only [List.countP_cons, h.1.beq_true, countAcc, h2]
      cases acc A v x <;> simp <;> omega
  | [], _ :: _, h => h.elim
  | _ :: _, [], h => h.elim

theorem SchemasDecide_of_members (pr : Printer) (root : J) : ∀ (vs : List V) (js : List J) (x : PyVal) {N : Nat},
    AllZip (fun v j => toSchema pr ctx [] [] v = .ok j) vs js →
    (∀ v ∈ vs, ∀ j, toSchema pr ctx [] [] v = .ok j → DecidesAt root ctx j N x (acc A v x)) →
    SchemasDecide A root ctx vs js x N
  | [], [], _, _, _, _ => trivial
  | v :: vs, j :: js, x, N, hf, h => by
    cases hf with
    | cons h1 h2 =>
      exact ⟨h v (by simp) j h1, SchemasDecide_of_members pr root vs js x h2 (fun w hw => h w (by simp [hw]))⟩
  | [], _ :: _, _, _, hf, _ => by cases hf
  | _ :: _, [], _, _, hf, _ => by cases hf

theorem accAny_eq_any (vs : List V) (x : PyVal) : accAny A vs x = vs.any (fun v => acc A v x) := by
  induction vs with
  | nil => rfl
  | cons v vs ih => simp [accAny, ih]

theorem countAcc_eq_countP (vs : List V) (x : PyVal) : countAcc A vs x = vs.countP (fun v => acc A v x) := by
  induction vs with
  | nil => rfl
  | cons v vs ih => rw [countAcc, ih, List.countP_cons, Nat.add_comm]

theorem countAcc_one (vs : List V) (x : PyVal) (h : countAcc A vs x ≤ 1) : (countAcc A vs x == 1) = accAny A vs x := by
  rw [countAcc_eq_countP] at h ⊢
  rw [accAny_eq_any]
  exact countP_one_of_atMostOne _ vs h

theorem okAll_mem : ∀ (vs : List V) (x : PyVal), okAll A O vs x = true → ∀ v ∈ vs, ok A O v x = true
  | [], _, _, v, hv => by simp at hv
  | w :: ws, x, h, v, hv => by
    simp only [okAll, Bool.and_eq_true] at h
    rcases List.mem_cons.1 hv with rfl | hv
    · exact h.1
    · exact okAll_mem ws x h.2 v hv

theorem accZip_eq_slots : ∀ (vs : List V) (ys : List PyVal), accZip A vs ys = allSlots (vs.map fun v => (v, acc A v)) ys
  | [], _ => rfl
  | _ :: _, [] => rfl
  | v :: vs, y :: ys => by simp only [accZip, List.map_cons, allSlots, accZip_eq_slots vs ys]

theorem okZip_nil (fs : List V) : okZip A O fs [] = true := by cases fs <;> rfl

theorem okZip_mem : ∀ (fs : List V) (ys : List PyVal), okZip A O fs ys = true → ∀ p ∈ fs.zip ys, ok A O p.1 p.2 = true
  | [], _, _, p, hp => by cases hp
  | _ :: _, [], _, p, hp => by cases hp
  | v :: vs, y :: ys, h, p, hp => by
    simp only [okZip, Bool.and_eq_true] at h
    rcases List.mem_cons.1 hp with rfl | hp
    · exact h.1
    · exact okZip_mem vs ys h.2 p hp

theorem zip_decides {root : J} {ref : Option (List Nat)} {R : V → J → Prop} (N : Nat) :
    ∀ (fs : List V) (items : List J) (ys : List PyVal), AllZip R fs items →
      (∀ p ∈ fs.zip ys, ∀ j, R p.1 j → DecidesAt root ref j N p.2 (acc A p.1 p.2)) →
      (∀ q ∈ items.zip ys, DecidesAt root ref q.1 N q.2 (evalSchema root ref N q.1 q.2 == some true)) ∧
      (items.zip ys).all (fun q => evalSchema root ref N q.1 q.2 == some true) = accZip A fs ys
  | [], [], ys, _, _ => ⟨fun _ hq => (by cases hq), rfl⟩
  | v :: vs, j :: js, [], _, _ => ⟨fun _ hq => (by cases hq), rfl⟩
  | v :: vs, j :: js, y :: ys, .cons hj hrest, h => by
    obtain ⟨h1, h2⟩ := zip_decides N vs js ys hrest (fun p hp => h p (List.mem_cons_of_mem _ hp))
    have hd : DecidesAt root ref j N y (acc A v y) := h (v, y) (List.mem_cons_self ..) j hj
    refine ⟨fun q hq => ?_, ?_⟩
    · rcases List.mem_cons.1 hq with rfl | hq
      · rw [hd.beq_true]; exact hd
      · exact h1 q hq
    · simp only [List.zip_cons_cons, List.all_cons, accZip, hd.beq_true, h2]

theorem accFields_eq_all : ∀ (ks : List PyVal) (rs : List Bool) (vs : List V) (kvs : List (PyVal × PyVal)),
    accFields A ks rs vs kvs =
      (ks.zip (rs.zip vs)).all (fun q => (dictGet kvs q.1).elim (!q.2.1) (acc A q.2.2))
  | [], _, _, _ => by simp [accFields]
  | _ :: _, [], _, _ => by simp [accFields]
  | _ :: _, _ :: _, [], _ => by simp [accFields]
  | k :: ks, r :: rs, v :: vs, kvs => by
    simp only [accFields, accFields_eq_all ks rs vs kvs, List.zip_cons_cons, List.all_cons]
    cases dictGet kvs k <;> rfl

theorem okFields_mem (kvs : List (PyVal × PyVal)) : ∀ (ks : List PyVal) (vs : List V), okFields A O ks vs kvs = true →
    ∀ p ∈ ks.zip vs, ∀ xv, dictGet kvs p.1 = some xv → ok A O p.2 xv = true
  | [], _, _, p, hp => by cases hp
  | _ :: _, [], _, p, hp => by cases hp
  | k :: ks, v :: vs, h, p, hp => by
    simp only [okFields, Bool.and_eq_true] at h
    rcases List.mem_cons.1 hp with rfl | hp
    · intro xv hg
      simpa only [hg] using h.1
    · exact okFields_mem kvs ks vs h.2 p hp

theorem foldl_jset_nodup : ∀ (ts : List (List Nat)) (js : List J) (acc0 : JObj), textsNodup ts = true →
    (∀ t ∈ ts, hasKey acc0 t = false) →
    (ts.zip js).foldl (fun acc p => jset acc p.1 p.2) acc0 = acc0 ++ ts.zip js :=
  _root_.Koda.foldl_jset_nodup

def FieldsAgree (A : PyVal → Bool) (g : J → PyVal → Bool) (kvs : List (PyVal × PyVal)) : List (List Nat) → List V → List J → Prop
  | t :: ts, v :: vs, j :: js =>
    (∀ val, dictGet kvs (.str t) = some val → g j val = acc A v val) ∧ FieldsAgree A g kvs ts vs js
  | _, _, _ => True

theorem fields_formula (g : J → PyVal → Bool) (kvs : List (PyVal × PyVal)) :
    ∀ (ts : List (List Nat)) (rs : List Bool) (vs : List V) (js : List J),
      ts.length = vs.length → rs.length = vs.length → js.length = vs.length → FieldsAgree A g kvs ts vs js →
      ((((ts.zip rs).filter (·.2)).map (·.1)).all (fun nm => dictHas kvs (.str nm)) &&
        (ts.zip js).all (propOk g kvs)) =
      accFields A (ts.map PyVal.str) rs vs kvs
  | [], [], [], [], _, _, _, _ => rfl
  | t :: ts, r :: rs, v :: vs, j :: js, h1, h2, h3, ha => by
    have ih := fields_formula g kvs ts rs vs js (by simpa using h1) (by simpa using h2) (by simpa using h3) ha.2
    simp only [List.map_cons, accFields, ← ih, List.zip_cons_cons, List.all_cons, propOk]
    cases hg : dictGet kvs (.str t) with
    | none =>
      cases r
      · simp [List.filter]
      · simp [List.filter, dictHas_get, hg]
    | some val =>
      have := ha.1 val hg
      cases r
      · simp only [List.filter, this]
        cases acc A v val <;> simp
      · simp only [List.filter, List.map_cons, List.all_cons, dictHas_get, hg, Option.isSome_some, Bool.true_and, this]
        cases acc A v val <;> simp
  | [], _ :: _, _, _, _, h2, _, _ => by cases ‹List V› <;> simp at *
  | _ :: _, [], _, _, h1, h2, _, _ => by cases ‹List V› <;> simp at *
  | [], [], _ :: _, _, h1, _, _, _ => by simp at h1
  | [], [], [], _ :: _, _, _, h3, _ => by simp at h3
  | _ :: _, _ :: _, [], _, h1, _, _, _ => by simp at h1
  | _ :: _, _ :: _, _ :: _, [], _, _, h3, _ => by simp at h3

theorem fields_decide {root : J} {ref : Option (List Nat)} {R : V → J → Prop} (N : Nat) (kvs : List (PyVal × PyVal)) :
    ∀ (ts : List (List Nat)) (vs : List V) (js : List J), AllZip R vs js →
      (∀ p ∈ (ts.map PyVal.str).zip vs, ∀ val, dictGet kvs p.1 = some val →
        ∀ j, R p.2 j → DecidesAt root ref j N val (acc A p.2 val)) →
      FieldsAgree A (fun j y => evalSchema root ref N j y == some true) kvs ts vs js ∧
      (∀ p ∈ ts.zip js, ∀ val, dictGet kvs (.str p.1) = some val →
        DecidesAt root ref p.2 N val (evalSchema root ref N p.2 val == some true))
  | [], vs, js, _, _ => ⟨by cases vs <;> cases js <;> trivial, fun p hp => by cases hp⟩
  | t :: ts, [], [], _, _ => ⟨trivial, fun p hp => by cases hp⟩
  | t :: ts, v :: vs, j :: js, .cons hj hrest, h => by
    obtain ⟨h1, h2⟩ := fields_decide N kvs ts vs js hrest (fun p hp => h p (List.mem_cons_of_mem _ hp))
    have hd : ∀ val, dictGet kvs (.str t) = some val → DecidesAt root ref j N val (acc A v val) :=
      fun val hg => h (.str t, v) (List.mem_cons_self ..) val hg j hj
    refine ⟨⟨fun val hg => (hd val hg).beq_true, h1⟩, fun p hp val hg => ?_⟩
    rcases List.mem_cons.1 hp with rfl | hp
    · rw [(hd val hg).beq_true]; exact hd val hg
    · exact h2 p hp val hg

/-! One node: `TreeOK` of the children gives `TreeOK` of the node.  `Bd` bounds the values the node is applied to,
`Bd'` those its children are applied to. -/

section nodes
variable {pr : Printer} {o : Oracle} {env : Nat → V} {root : J}

theorem TreeOK.scalar {vid : Nat} {tg : Ty} {t : String} {ps : List Pred} (ht : typeName tg = some t) :
    TreeOK A O L ctx Bd pr o env root (.scalar vid tg none [] ps []) := by
  intro x _ _ hok
  have hchk : x.ty = tg → ∀ p ∈ ps, predCheck p.k x = true := by
    intro hty p hp
    simp only [ok, hty, decide_true, Bool.not_true, Bool.false_or, List.all_eq_true] at hok
    exact hok p hp
  exact ⟨node_scalar_validator o env vid tg ps x hchk, fun j hj =>
    C11_scalar_schema pr root ctx ctx [] vid tg t ht none [] ps j hj x
      (fun hty p hp => predCheck_PredOK pr root ctx p.k x (hchk hty p hp))⟩

theorem TreeOK.equals {vid pid : Nat} {m : PyVal} {t : String} (ht : typeName m.ty = some t) :
    TreeOK A O L ctx Bd pr o env root (.equals vid m [] pid) := by
  intro x _ _ _
  refine ⟨node_equals_validator o env vid pid m x t ht, fun j hj => ?_⟩
  rw [equals_schema_eq pr ctx vid pid m t ht] at hj
  have := C11_scalar_schema pr root ctx ctx [] vid m.ty t ht none [] [⟨pid, .equalTo m⟩] j hj x
    (fun hty p hp => by
      obtain rfl := List.mem_singleton.1 hp
      exact PredOK_equalTo pr root ctx m x (sameKind_of_ty m x t ht hty))
  simp only [List.all_cons, List.all_nil, Bool.and_true] at this
  exact this

theorem TreeOK.union {vid : Nat} {vs : List V} (hvs : ∀ v ∈ vs, TreeOK A O L ctx Bd pr o env root v) :
    TreeOK A O L ctx Bd pr o env root (.union vid vs) := by
  intro x hx hbx hok
  have hok' : (okAll A O vs x && decide (countAcc A vs x ≤ 1)) = true := hok
  simp only [Bool.and_eq_true, decide_eq_true_eq] at hok'
  have hmem := fun v hv => hvs v hv x hx hbx (okAll_mem vs x hok'.1 v hv)
  refine ⟨?_, fun j hj => ?_⟩
  · have := node_union_validator o env vid vs x (fun v => acc A v x) (fun v hv => (hmem v hv).1)
    rw [← accAny_eq_any] at this
    exact this
  · simp only [toSchema, bind_eq_ok, Except.ok.injEq] at hj
    obtain ⟨js, hi, rfl⟩ := hj
    obtain ⟨hg, hc⟩ := SchemasDecide.count (sfuelL L vs) x vs js
      (SchemasDecide_of_members pr root vs js x (toSchemaL_spec pr ctx [] [] vs js hi)
        (fun v hv j hj => ((hmem v hv).2 j hj).mono (sfuel_le_sfuelL v vs hv)))
    have := C11_union_schema root ctx js _ (sfuelL L vs) x hg
    rw [hc, countAcc_one vs x hok'.2] at this
    exact this

theorem TreeOK.optional {vid nvid : Nat} {inner : V} (hinner : TreeOK A O L ctx Bd pr o env root inner) :
    TreeOK A O L ctx Bd pr o env root (.optional vid (.noneV nvid none) inner) := by
  intro x hx hbx hok
  have hok' : (isNoneV x || ok A O inner x) = true := hok
  have hin := fun (hn : isNoneV x = false) => hinner x hx hbx (by simpa only [hn, Bool.false_or] using hok')
  refine ⟨node_optional_validator o env vid nvid inner x (acc A inner x) (fun hn => (hin hn).1), fun j hj => ?_⟩
  simp only [toSchema, bind_eq_ok] at hj
  obtain ⟨it, hi, hj⟩ := hj
  cases it with
  | obj ob =>
    obtain rfl := Except.ok.inj hj
    exact C11_optional_schema root ctx ob (sfuel L inner) x (acc A inner x) (fun hn => (hin hn).2 _ hi)
  | _ => cases hj

theorem TreeOK.knr {vid : Nat} {inner : V} (hinner : TreeOK A O L ctx Bd pr o env root inner) :
    TreeOK A O L ctx Bd pr o env root (.knr vid inner) :=
  fun x hx hbx hok => ⟨node_knr_validator o env vid inner x _ (hinner x hx hbx hok).1, (hinner x hx hbx hok).2⟩

variable {Bd' : PyVal → Prop} (hBd : ∀ {x y : PyVal}, Bd x → sizeOf y < sizeOf x → Bd' y)
include hBd

theorem seq_kids {item : V} {ps : List Pred} {x : PyVal}
    (hitem : TreeOK A O L ctx Bd' pr o env root item) (hx : isJson x = true) (hbx : Bd x)
    (hok : (!(isListV x) || (ps.all (fun p => predCheck p.k x) && (listItems x).all (fun y => ok A O item y))) = true) :
    (isListV x = true → ∀ p ∈ ps, predCheck p.k x = true) ∧
    ∀ y ∈ listItems x, VDecides o env item y (acc A item y) ∧
      ∀ j, toSchema pr ctx [] [] item = .ok j → DecidesAt root ctx j (sfuel L item) y (acc A item y) := by
  have hchk : isListV x = true → (∀ p ∈ ps, predCheck p.k x = true) ∧ ∀ y ∈ listItems x, ok A O item y = true := by
    intro hl
    simpa only [hl, Bool.not_true, Bool.false_or, Bool.and_eq_true, List.all_eq_true] using hok
  exact ⟨fun hl => (hchk hl).1, fun y hy =>
    hitem y (isJson_listItems hx y hy) (hBd hbx (sizeOf_listItems hy)) ((hchk (isListV_of_mem hy)).2 y hy)⟩

theorem TreeOK.list {vid : Nat} {item : V} {ps : List Pred}
    (hitem : TreeOK A O L ctx Bd' pr o env root item) : TreeOK A O L ctx Bd pr o env root (.list vid item ps [] none) := by
  intro x hx hbx hok
  obtain ⟨hchk, hkids⟩ := seq_kids hBd hitem hx hbx hok
  refine ⟨node_list_validator o env vid item ps x (acc A item) hchk (fun y hy => (hkids y hy).1), fun j hj => ?_⟩
  simp only [toSchema, bind_eq_ok, List.append_nil, Except.ok.injEq] at hj
  obtain ⟨it, hi, ob, hp, rfl⟩ := hj
  exact C11_list_schema pr root ctx it ps ob hp x (acc A item) (sfuel L item) (fun y hy => (hkids y hy).2 it hi)
    (fun hl p hpm => predCheck_PredOK pr root ctx p.k x (hchk hl p hpm))

/-- the schema, specification and side conditions of a uniform tuple are those of a list -/
theorem TreeOK.utuple {vid : Nat} {item : V} {ps : List Pred}
    (hitem : TreeOK A O L ctx Bd' pr o env root item) :
    TreeOK A O L ctx Bd pr o env root (.utuple vid item ps [] (some .dflt)) := by
  intro x hx hbx hok
  obtain ⟨hchk, hkids⟩ := seq_kids hBd hitem hx hbx hok
  exact ⟨node_utuple_validator o env vid item ps x (acc A item) hx hchk (fun y hy => (hkids y hy).1),
    (TreeOK.list (vid := vid) hBd hitem x hx hbx hok).2⟩

theorem TreeOK.map {vid : Nat} {kv vv : V} {ps : List Pred}
    (hkv : isPlainStrV kv = true) (hvv : TreeOK A O L ctx Bd' pr o env root vv) :
    TreeOK A O L ctx Bd pr o env root (.map vid kv vv ps [] none) := by
  intro x hx hbx hok
  obtain ⟨hkeys, hjv⟩ := isJson_dictKvs hx
  have hchk : isDictV x = true → (∀ p ∈ ps, predCheck p.k x = true) ∧ ∀ p ∈ dictKvs x, ok A O vv p.2 = true := by
    intro hd
    have hok' : (!(isDictV x) || (ps.all (fun p => predCheck p.k x) && (dictKvs x).all (fun p => ok A O vv p.2))) = true := hok
    simpa only [hd, Bool.not_true, Bool.false_or, Bool.and_eq_true, List.all_eq_true] using hok'
  have hkids : ∀ p ∈ dictKvs x, VDecides o env vv p.2 (acc A vv p.2) ∧
      ∀ j, toSchema pr ctx [] [] vv = .ok j → DecidesAt root ctx j (sfuel L vv) p.2 (acc A vv p.2) := fun p hp =>
    hvv p.2 (hjv p hp) (hBd hbx (sizeOf_dictKvs hp)) ((hchk (isDictV_of_mem hp)).2 p hp)
  refine ⟨node_map_validator o env vid kv vv ps x (acc A vv) hkv hkeys (fun hd => (hchk hd).1) (fun p hp => (hkids p hp).1),
    fun j hj => ?_⟩
  simp only [toSchema, bind_eq_ok, List.append_nil, Except.ok.injEq] at hj
  obtain ⟨it, hi, ob, hp, rfl⟩ := hj
  exact C11_map_schema pr root ctx it ps ob hp x (acc A vv) (sfuel L vv) hkeys (fun p hpm => (hkids p hpm).2 it hi)
    (fun hd p hpm => predCheck_PredOK pr root ctx p.k x ((hchk hd).1 p hpm))

theorem TreeOK.ntuple {vid lp : Nat} {fs : List V}
    (hfs : ∀ v ∈ fs, TreeOK A O L ctx Bd' pr o env root v) :
    TreeOK A O L ctx Bd pr o env root (.ntuple vid fs none (some .dflt) lp) := by
  intro x hx hbx hok
  have hokz : okZip A O fs (listItems x) = true := by
    by_cases hl : isListV x = true
    · have hok' : (!(isListV x) || okZip A O fs (listItems x)) = true := hok
      simpa only [hl, Bool.not_true, Bool.false_or] using hok'
    · rw [listItems_of_not_list hl]; exact okZip_nil fs
  have hkids : ∀ p ∈ fs.zip (listItems x), VDecides o env p.1 p.2 (acc A p.1 p.2) ∧
      ∀ j, toSchema pr ctx [] [] p.1 = .ok j → DecidesAt root ctx j (sfuel L p.1) p.2 (acc A p.1 p.2) := fun p hp =>
    have hm := List.of_mem_zip hp
    hfs p.1 hm.1 p.2 (isJson_listItems hx _ hm.2) (hBd hbx (sizeOf_listItems hm.2)) (okZip_mem fs _ hokz p hp)
  refine ⟨?_, fun j hj => ?_⟩
  · have := node_ntuple_validator o _ env vid lp (fs.map fun v => (v, acc A v)) x (isListV x) (listItems x)
      (fun hl => ⟨0, (gate_tuple_dflt_json o hx).1 hl⟩) (fun hl => ⟨_, (gate_tuple_dflt_json o hx).2 hl⟩)
      (slotsDecide_of_zip o env (acc A) fs _ fun p hp => (hkids p hp).1)
    rw [← accZip_eq_slots, List.length_map, List.map_map] at this
    simp only [Function.comp_def, List.map_id'] at this
    exact this
  · simp only [toSchema, bind_eq_ok, Except.ok.injEq] at hj
    obtain ⟨items, hi, rfl⟩ := hj
    have hz := toSchemaL_spec pr ctx [] [] fs items hi
    obtain ⟨h1, h2⟩ := zip_decides (sfuelL L fs) fs items (listItems x) hz
      (fun p hp j hj => ((hkids p hp).2 j hj).mono (sfuel_le_sfuelL p.1 fs (List.of_mem_zip hp).1))
    have := C11_ntuple_schema root ctx items (fun j y => evalSchema root ctx (sfuelL L fs) j y == some true)
      (sfuelL L fs) x h1
    rw [h2] at this
    simp only [ntupleObj, ← hz.length] at this
    exact this

theorem TreeOK.record {vid : Nat} {cfg : RecCfg} {vs : List V}
    (hcfg : recCfgOK cfg vs.length = true) (hvs : ∀ v ∈ vs, TreeOK A O L ctx Bd' pr o env root v) :
    TreeOK A O L ctx Bd pr o env root (.record vid cfg vs) := by
  intro x hx hbx hok
  simp only [recCfgOK, Bool.and_eq_true, Option.isNone_iff_eq_none, beq_iff_eq] at hcfg
  obtain ⟨⟨⟨⟨⟨hoc, haoc⟩, hco⟩, hkeys⟩, hlk⟩, hlr⟩ := hcfg
  cases hkt : keyTexts cfg.keys with
  | none => simp [hkt] at hkeys
  | some ts =>
    have hnd : textsNodup ts = true := by simpa only [hkt] using hkeys
    have hks : cfg.keys = ts.map PyVal.str := keyTexts_spec _ _ hkt
    have hlt : ts.length = vs.length := by rw [← hlk, hks, List.length_map]
    obtain ⟨hstr, hjv⟩ := isJson_dictKvs hx
    have hokf : okFields A O (ts.map PyVal.str) vs (dictKvs x) = true := hks ▸ hok
    have hkids : ∀ p ∈ (ts.map PyVal.str).zip vs, ∀ xv, dictGet (dictKvs x) p.1 = some xv →
        VDecides o env p.2 xv (acc A p.2 xv) ∧
        ∀ j, toSchema pr ctx [] [] p.2 = .ok j → DecidesAt root ctx j (sfuel L p.2) xv (acc A p.2 xv) := by
      intro p hp xv hg
      obtain ⟨k', hq⟩ := dictGet_mem_pair _ _ _ hg
      exact hvs p.2 (List.of_mem_zip hp).2 xv (hjv _ hq) (hBd hbx (sizeOf_dictKvs hq)) (okFields_mem _ _ _ hokf p hp xv hg)
    refine ⟨?_, fun j hj => ?_⟩
    · have := node_record_validator o env vid cfg vs x (fun v y => acc A v y) hx hoc haoc hco
        (hks ▸ fun p hp xv hg => (hkids p hp xv hg).1)
      rw [← accFields_eq_all] at this
      exact this
    · simp only [toSchema, bind_eq_ok] at hj
      obtain ⟨js, hi, hj⟩ := hj
      have hz := toSchemaL_spec pr ctx [] [] vs js hi
      have hlj : js.length = vs.length := hz.length.symm
      simp only [hks, labelsText_strs] at hj
      rw [foldl_jset_nodup ts js [] hnd (fun t _ => rfl), List.nil_append] at hj
      obtain rfl := Except.ok.inj hj
      obtain ⟨hag, hprops⟩ := fields_decide (max (sfuelL L vs) 1) (dictKvs x) ts vs js hz
        (fun p hp val hg j hj => ((hkids p hp val hg).2 j hj).mono
          (Nat.le_trans (sfuel_le_sfuelL p.2 vs (List.of_mem_zip hp).2) (Nat.le_max_left _ _)))
      have hrec := C11_record_schema root ctx cfg.failUnknown
        (if cfg.kind = .typeddict then sortTexts (((ts.zip cfg.reqs).filter (·.2)).map (·.1))
         else ((ts.zip cfg.reqs).filter (·.2)).map (·.1))
        (ts.zip js) (fun j y => evalSchema root ctx (max (sfuelL L vs) 1) j y == some true)
        (max (sfuelL L vs) 1) (Nat.le_max_right _ _) x hstr hprops
      -- rewrite the decided formula into `acc`
      have hfst : (ts.zip js).map (·.1) = ts := List.map_fst_zip (by omega)
      have hknown : (dictKvs x).all (knownOrAllowed ((ts.zip js).map (·.1)) cfg.failUnknown) =
          (dictKvs x).all (fun p => memL p.1 cfg.keys || !cfg.failUnknown) := by
        apply all_congr_mem
        intro p hp
        obtain ⟨nm, hnm⟩ := hstr p hp
        simp only [knownOrAllowed, hnm, keyText, hfst, hks, memL_strs]
      rw [hknown, all_sortTexts_ite, fields_formula _ (dictKvs x) ts cfg.reqs vs js hlt hlr hlj hag, ← hks] at hrec
      exact hrec

end nodes

mutual
/-- **C11 for whole trees, partial**: for every tree of the fragment (any depth, any width), every JSON
    value `x` within the budget `B` and under the side conditions `ok A O v x`, the validator terminates with
    verdict `acc A v x`, and the generated schema, from fuel `sfuel L v` on, evaluates to `acc A v x` as well —
    provided (`HL`) the named validator a `Lazy` refers to does so, with `A`, `O`, `L`, on the values smaller
    than `B`.  (`_partial`: `ok` contains the agreement conditions that the code violates in findings D13, D14, D15.) -/
theorem C11_tree_partial (pr : Printer) (o : Oracle) (env : Nat → V) (root : J) (B : Nat)
    (HL : ∀ vid y, isJson y = true → sizeOf y < B → O y = true →
      VDecides o env (.lazy vid 0) y (A y) ∧
      ∀ j, toSchema pr ctx [] [] (.lazy vid 0) = .ok j → DecidesAt root ctx j (max L 2) y (A y)) :
    ∀ (v : V) (gd : Bool), frag gd v = true → TreeOK A O L ctx (BdP B gd) pr o env root v
  | .scalar vid tg c pre ps aps, gd, hf => by
    simp only [frag, Bool.and_eq_true, Option.isSome_iff_exists, Option.isNone_iff_eq_none, List.isEmpty_iff] at hf
    obtain ⟨⟨⟨⟨t, ht⟩, rfl⟩, rfl⟩, rfl⟩ := hf
    exact TreeOK.scalar ht
  | .equals vid m pre pid, gd, hf => by
    simp only [frag, Bool.and_eq_true, List.isEmpty_iff, Option.isSome_iff_exists] at hf
    obtain ⟨rfl, t, ht⟩ := hf
    exact TreeOK.equals ht
  | .list vid item ps aps c, gd, hf => by
    simp only [frag, Bool.and_eq_true, Option.isNone_iff_eq_none, List.isEmpty_iff] at hf
    obtain ⟨⟨rfl, rfl⟩, hfi⟩ := hf
    exact TreeOK.list BdP_child (C11_tree_partial pr o env root B HL item true hfi)
  | .utuple vid item ps aps c, gd, hf => by
    simp only [frag, Bool.and_eq_true, List.isEmpty_iff] at hf
    obtain ⟨⟨hc, rfl⟩, hfi⟩ := hf
    obtain rfl := isDfltCoerce_eq hc
    exact TreeOK.utuple BdP_child (C11_tree_partial pr o env root B HL item true hfi)
  | .map vid kv vv ps aps c, gd, hf => by
    simp only [frag, Bool.and_eq_true, Option.isNone_iff_eq_none, List.isEmpty_iff] at hf
    obtain ⟨⟨⟨rfl, rfl⟩, hkv⟩, hfv⟩ := hf
    exact TreeOK.map BdP_child hkv (C11_tree_partial pr o env root B HL vv true hfv)
  | .union vid vs, gd, hf =>
    TreeOK.union (C11_tree_partialL pr o env root B HL vs gd hf).mem
  | .optional vid nv inner, gd, hf => by
    simp only [frag, Bool.and_eq_true] at hf
    obtain ⟨nvid, rfl⟩ := isDefaultNone_eq hf.1
    exact TreeOK.optional (C11_tree_partial pr o env root B HL inner gd hf.2)
  | .knr vid inner, gd, hf =>
    TreeOK.knr (C11_tree_partial pr o env root B HL inner gd hf)
  | .ntuple vid fs oc c lp, gd, hf => by
    simp only [frag, Bool.and_eq_true, Option.isNone_iff_eq_none] at hf
    obtain ⟨⟨rfl, hc⟩, hfl⟩ := hf
    obtain rfl := isDfltCoerce_eq hc
    exact TreeOK.ntuple BdP_child (C11_tree_partialL pr o env root B HL fs true hfl).mem
  | .record vid cfg vs, gd, hf => by
    simp only [frag, Bool.and_eq_true] at hf
    exact TreeOK.record BdP_child hf.1 (C11_tree_partialL pr o env root B HL vs true hf.2).mem
  | .lazy vid ref, gd, hf => by
    simp only [frag, Bool.and_eq_true, beq_iff_eq] at hf
    obtain ⟨rfl, rfl⟩ := hf
    exact fun x hx hbx hok => HL vid x hx (by simpa [BdP] using hbx) hok
  | .noneV .., _, hf | .always _, _, hf | .isDict _, _, hf | .set .., _, hf | .maybe .., _, hf | .user .., _, hf => by
    cases hf
theorem C11_tree_partialL (pr : Printer) (o : Oracle) (env : Nat → V) (root : J) (B : Nat)
    (HL : ∀ vid y, isJson y = true → sizeOf y < B → O y = true →
      VDecides o env (.lazy vid 0) y (A y) ∧
      ∀ j, toSchema pr ctx [] [] (.lazy vid 0) = .ok j → DecidesAt root ctx j (max L 2) y (A y)) :
    ∀ (vs : List V) (gd : Bool), fragL gd vs = true → AllP (TreeOK A O L ctx (BdP B gd) pr o env root) vs
  | [], _, _ => trivial
  | w :: ws, gd, hf => by
    simp only [fragL, Bool.and_eq_true] at hf
    exact ⟨C11_tree_partial pr o env root B HL w gd hf.1, C11_tree_partialL pr o env root B HL ws gd hf.2⟩
end

/-! ### closing the recursion: induction on the size of the JSON value -/

/-- what the named validator `body` accepts among the values of size `< B` -/
def AccB (body : V) : Nat → PyVal → Bool
  | 0 => fun _ => false
  | B + 1 => fun x => acc (AccB body B) body x

def OkB (body : V) : Nat → PyVal → Bool
  | 0 => fun _ => true
  | B + 1 => fun x => ok (AccB body B) (OkB body B) body x

/-- fuel from which the named schema is decided on values of size `≤ B` -/
def SF (body : V) : Nat → Nat
  | 0 => sfuel 0 body
  | B + 1 => sfuel (SF body B + 1) body

theorem evalKw_ref (ev : J → PyVal → Option Bool) (root : J) (ref : List Nat) (o : JObj) (y : PyVal) :
    evalKw ev root (some ref) o (kw "$ref") (.str ref) y = (if ref == ref then ev root y else none) := by
  unfold evalKw
  simp only [kw_beq, String.reduceEq, decide_false, decide_true, Bool.false_eq_true, Bool.or_false, ↓reduceIte]

/-- a `$ref` to the named schema is decided one step after the named schema itself -/
theorem ref_decides (rootJ : J) (ref : List Nat) (N : Nat) (y : PyVal) (b : Bool)
    (h : DecidesAt rootJ (some ref) rootJ N y b) :
    DecidesAt rootJ (some ref) (.obj [(kw "$ref", .str ref)]) (max (N + 1) 2) y b := by
  intro n hn
  obtain ⟨n', rfl⟩ : ∃ n', n = n' + 1 := ⟨n - 1, by omega⟩
  have hN : N ≤ n' := by omega
  have := h n' hN
  have hnl : isNullable [(kw "$ref", J.str ref)] = false := rfl
  have htf : typeFails [(kw "$ref", J.str ref)] y = false := rfl
  simp only [evalSchema, hnl, htf, Bool.false_and, Bool.false_eq_true, if_false, allM, evalKw_ref, beq_self_eq_true,
    if_true, this]
  cases b <;> rfl

theorem lazy_schema (pr : Printer) (ref : List Nat) (vid : Nat) (j : J)
    (h : toSchema pr (some ref) [] [] (.lazy vid 0) = .ok j) : j = .obj [(kw "$ref", .str ref)] := by
  simp [toSchema] at h
  exact h.symm

/-- **C11 for a named recursive validator** (`Lazy` nodes referring to the named validator itself, below a
    container): for every JSON value `x`, the validator terminates on `x` and the named schema — `$ref`s
    resolved to itself — is decided on `x`, with the same verdict. -/
theorem C11_named_tree_partial (pr : Printer) (o : Oracle) (env : Nat → V) (body : V) (ref : List Nat) (rootJ : J)
    (henv : env 0 = body) (hf : frag false body = true)
    (hroot : toSchema pr (some ref) [] [] body = .ok rootJ) :
    ∀ (B : Nat) (x : PyVal), isJson x = true → sizeOf x < B + 1 → OkB body (B + 1) x = true →
      VDecides o env body x (AccB body (B + 1) x) ∧
      DecidesAt rootJ (some ref) rootJ (SF body B) x (AccB body (B + 1) x) := by
  -- the tree theorem at budget `B`, once its `Lazy` nodes are dealt with
  have step : ∀ (B L : Nat), (∀ vid y, isJson y = true → sizeOf y < B → OkB body B y = true →
      VDecides o env (.lazy vid 0) y (AccB body B y) ∧
      ∀ j, toSchema pr (some ref) [] [] (.lazy vid 0) = .ok j → DecidesAt rootJ (some ref) j (max L 2) y (AccB body B y)) →
      ∀ x, isJson x = true → sizeOf x < B + 1 → OkB body (B + 1) x = true →
        VDecides o env body x (AccB body (B + 1) x) ∧
        DecidesAt rootJ (some ref) rootJ (sfuel L body) x (AccB body (B + 1) x) := fun B L HL x hx hb hok =>
    have h := C11_tree_partial pr o env rootJ B HL body false hf x hx hb hok
    ⟨h.1, h.2 rootJ hroot⟩
  intro B
  induction B with
  | zero => exact step 0 0 (fun _ _ _ h => absurd h (Nat.not_lt_zero _))
  | succ B ih =>
    refine step (B + 1) (SF body B + 1) (fun vid y hy hby hoy => ?_)
    obtain ⟨⟨n, out, t, hr, hv⟩, hs⟩ := ih y hy hby hoy
    refine ⟨⟨n + 1, out, t, by simp [run, henv, hr], hv⟩, fun j hj => ?_⟩
    rw [lazy_schema pr ref vid j hj]
    exact ref_decides rootJ ref (SF body B) y _ hs

/-- the headline for named recursive schemas: **the named schema accepts `x` ⇔ the validator accepts `x`** -/
theorem C11_named_iff_partial (pr : Printer) (o : Oracle) (env : Nat → V) (body : V) (ref : List Nat) (rootJ : J)
    (henv : env 0 = body) (hf : frag false body = true)
    (hroot : toSchema pr (some ref) [] [] body = .ok rootJ)
    (x : PyVal) (hx : isJson x = true) (hok : OkB body (sizeOf x + 1) x = true) :
    (∀ n, SF body (sizeOf x) ≤ n → evalSchema rootJ (some ref) n rootJ x = some true) ↔
      ∃ n w t, run o env .sync n body x = some (.valid w, t) := by
  obtain ⟨hv, hs⟩ := C11_named_tree_partial pr o env body ref rootJ henv hf hroot (sizeOf x) x hx (Nat.lt_succ_self _) hok
  exact decides_iff hv hs

/-- `Tree = Union[int, List[Tree]]` -/
def exTreeRec : V :=
  .union 1 [.scalar 2 .int none [] [] [], .list 3 (.lazy 4 0) [] [] none]

example : frag false exTreeRec = true := by decide

/-- `[1, [2, []]]` is a Tree, `[1, ["a"]]` is not (the size budget 20 is ample for both) -/
example : AccB exTreeRec 20 (.list 1 [.int 1, .list 2 [.int 2, .list 3 []]]) = true ∧
    AccB exTreeRec 20 (.list 1 [.int 1, .list 2 [.str [97]]]) = false ∧
    OkB exTreeRec 20 (.list 1 [.int 1, .list 2 [.int 2, .list 3 []]]) = true := by
  refine ⟨by decide, by decide, by decide⟩

/-- an unguarded self-reference (`Union[int, Tree]`) is outside the fragment: it would not terminate -/
example : frag false (.union 1 [.scalar 2 .int none [] [] [], .lazy 4 0]) = false := by decide

end Koda.Rec
