/-
  C07, the pieces shared by both resolvers: what `derive m` builds for each annotation form (`m` a
  variable), and what each node so built decides on an arbitrary Python value once its children decide.
  Tuple nodes differ between the resolvers only in their gate (exact type / default coercer); the gate's
  behaviour is a hypothesis here (`TupleGate`).
-/
import KodaModel.Properties.C07
import KodaModel.Properties.C11Nodes
import KodaModel.Lemmas.Loops

namespace Koda

theorem derive_union (m : ResolveMode) (as : List Ann) (s : Nat) :
    (derive m (.union as) s).1 = .union (deriveL m as s).2 (deriveL m as s).1 := rfl

theorem deriveL_cons (m : ResolveMode) (a : Ann) (as : List Ann) (s : Nat) :
    (deriveL m (a :: as) s).1 = (derive m a s).1 :: (deriveL m as (derive m a s).2).1 := rfl

theorem deriveL_length (m : ResolveMode) : ∀ (as : List Ann) (s : Nat), (deriveL m as s).1.length = as.length
  | [], s => rfl
  | a :: as, s => by rw [deriveL_cons]; simp [deriveL_length m as]

theorem derive_listBare (m : ResolveMode) (s : Nat) :
    (derive m .listBare s).1 = .list s (.always ALWAYS_VID) [] [] none := rfl

def tupleCoerce (m : ResolveMode) : Option CoerceK := if m = .signature then none else some .dflt

theorem derive_tupleBare (m : ResolveMode) (s : Nat) :
    (derive m .tupleBare s).1 = .utuple s (.always ALWAYS_VID) [] [] (tupleCoerce m) := rfl

theorem derive_tupleVar (m : ResolveMode) (a : Ann) (s : Nat) :
    (derive m (.tupleVar a) s).1 = .utuple (derive m a s).2 (derive m a s).1 [] [] (tupleCoerce m) := rfl

theorem derive_maybe (m : ResolveMode) (a : Ann) (s : Nat) :
    (derive m (.maybe a) s).1 = .maybe (derive m a s).2 (derive m a s).1 := rfl

theorem derive_tupleFixed (m : ResolveMode) (as : List Ann) (s : Nat) :
    (derive m (.tupleFixed as) s).1 =
      .ntuple (deriveL m as s).2 (deriveL m as s).1 none (tupleCoerce m) ((deriveL m as s).2 + 1) := rfl

theorem node_always_validator (o : Oracle) (env : Nat → V) (vid : Nat) (x : PyVal) : VDecides o env (.always vid) x true :=
  ⟨1, .valid x, [], rfl, rfl⟩

theorem node_scalar_exact (o : Oracle) (env : Nat → V) (vid : Nat) (tg : Ty) (x : PyVal) :
    VDecides o env (.scalar vid tg none [] [] []) x (x.ty == tg) := by
  have := node_scalar_validator o env vid tg [] x (fun _ p hp => nomatch hp)
  rwa [List.all_nil, Bool.and_true] at this

theorem node_scalar_dflt (o : Oracle) (env : Nat → V) (vid : Nat) (tg : Ty) (x : PyVal) :
    VDecides o env (.scalar vid tg (some .dflt) [] [] []) x (defaultCoerce o tg x).isSome := by
  cases hd : defaultCoerce o tg x with
  | some y =>
    refine ⟨1, .valid y, [], ?_, rfl⟩
    simp [run, scalarStep, gate, applyCoerce, hd, runProcs, contPreds, runPreds, finishPreds]
  | none =>
    refine ⟨1, .invalid (.mk (.coercion (defaultCompat tg) tg) x vid []), [], ?_, rfl⟩
    simp [run, scalarStep, gate, applyCoerce, hd]

/-- a derived scalar validator: exact type, or — the four coercing types under the default resolver —
    whatever the default coercer takes -/
theorem scalar_decides (o : Oracle) (env : Nat → V) (m : ResolveMode) (a : Ann) (tg : Ty) (h : scalarTy a = some tg)
    (s : Nat) (x : PyVal) :
    VDecides o env (derive m a s).1 x
      (if coercing tg && m != .signature then (defaultCoerce o tg x).isSome else x.ty == tg) := by
  rw [derive_scalar m a tg h s]
  cases hc : coercing tg && m != .signature with
  | true => exact node_scalar_dflt o env s tg x
  | false => exact node_scalar_exact o env s tg x

theorem node_list_plain (o : Oracle) (env : Nat → V) (vid : Nat) (item : V) (x : PyVal) (a : PyVal → Bool)
    (hitems : ∀ y ∈ listItems x, VDecides o env item y (a y)) :
    VDecides o env (.list vid item [] [] none) x (isListV x && (listItems x).all a) := by
  simpa using node_list_validator o env vid item [] x a (fun _ p hp => nomatch hp) hitems

def maybeSpec (a : PyVal → Bool) : PyVal → Bool
  | .nothing => true
  | .just _ v => a v
  | _ => false

theorem maybeSpec_mono {a b : PyVal → Bool} (h : ∀ v, a v = true → b v = true) (x : PyVal)
    (hx : maybeSpec a x = true) : maybeSpec b x = true := by
  unfold maybeSpec at hx ⊢
  split <;> simp_all

theorem node_maybe (o : Oracle) (env : Nat → V) (vid : Nat) (inner : V) (x : PyVal) (a : PyVal → Bool)
    (hinner : ∀ oid v, x = .just oid v → VDecides o env inner v (a v)) :
    VDecides o env (.maybe vid inner) x (maybeSpec a x) := by
  unfold maybeSpec
  split
  · exact ⟨1, .valid .nothing, [], rfl, rfl⟩
  · rename_i oid v
    obtain ⟨n, out, t, hr, hv⟩ := hinner oid v rfl
    refine ⟨n + 1, maybeOut vid (.just oid v) out, t, ?_, ?_⟩
    · simp only [run]
      rw [maybeStep_just, hr]
      rfl
    · cases out <;> exact hv
  · rename_i h1 h2
    exact ⟨1, .invalid (.mk (.type .maybeAny) x vid []), [], maybeStep.eq_3 vid (run o env .sync 0 inner) x h1 h2, rfl⟩

theorem union_of_decided {α : Type} (o : Oracle) (env : Nat → V) (vid : Nat) (x : PyVal) (f : α → Bool)
    {vs : List V} {as : List α} (h : AllZip (fun v a => VDecides o env v x (f a)) vs as) :
    VDecides o env (.union vid vs) x (as.any f) := by
  have := union_decided o env vid x Prod.fst (f ∘ Prod.snd) (vs.zip as) h.forall_zip
  rwa [List.map_fst_zip (Nat.le_of_eq h.length), ← List.any_map, List.map_snd_zip (Nat.le_of_eq h.length.symm)] at this

def VariantsDecide (o : Oracle) (env : Nat → V) (x : PyVal) : List V → List Ann → Prop
  | [], [] => True
  | v :: vs, a :: as => VDecides o env v x (hasType a x) ∧ VariantsDecide o env x vs as
  | _, _ => False

theorem VariantsDecide.allZip {o : Oracle} {env : Nat → V} {x : PyVal} : ∀ {vs : List V} {as : List Ann},
    VariantsDecide o env x vs as → AllZip (fun v a => VDecides o env v x (hasType a x)) vs as
  | [], [], _ => .nil
  | _ :: _, _ :: _, h => .cons h.1 h.2.allZip
  | [], _ :: _, h => h.elim
  | _ :: _, [], h => h.elim

theorem hasTypeAny_eq_any (x : PyVal) : ∀ (as : List Ann), hasTypeAny as x = as.any (hasType · x)
  | [] => rfl
  | a :: as => by rw [hasTypeAny, hasTypeAny_eq_any x as, List.any_cons]

theorem union_of_variants (o : Oracle) (env : Nat → V) (vid : Nat) (x : PyVal) :
    ∀ (vs : List V) (as : List Ann), VariantsDecide o env x vs as →
      VDecides o env (.union vid vs) x (hasTypeAny as x) := by
  intro vs as h
  rw [hasTypeAny_eq_any]
  exact union_of_decided o env vid x (hasType · x) h.allZip

/-- how the gate of a tuple validator with coercer `c` treats Python values: those `ok` marks come
    through as a tuple of their `items`, the others are rejected -/
structure TupleGate (o : Oracle) (c : Option CoerceK) (ok : PyVal → Bool) (items : PyVal → List PyVal) : Prop where
  acc : ∀ x, ok x = true → ∃ oid, gate o .tuple .list c x = .acc (.tuple oid (items x)) []
  rej : ∀ x, ok x = false → ∃ k, gate o .tuple .list c x = .rej k []

theorem node_utuple_gate {o : Oracle} {c : Option CoerceK} {ok : PyVal → Bool} {items : PyVal → List PyVal}
    (hg : TupleGate o c ok items) (env : Nat → V) (vid : Nat) (item : V) (x : PyVal) (a : PyVal → Bool)
    (hitems : ∀ y ∈ items x, VDecides o env item y (a y)) :
    VDecides o env (.utuple vid item [] [] c) x (ok x && (items x).all a) := by
  obtain ⟨n, h⟩ := seq_decided .utuple (by decide) o env vid item [] c x (ok x) true (items x) a
    (fun hl => let ⟨oid, h⟩ := hg.acc x hl; ⟨.tuple oid (items x), h, rfl, nofun, rfl⟩) (hg.rej x) hitems
  rw [Bool.and_true] at h
  exact ⟨n + 1, h⟩

theorem node_ntuple_gate {o : Oracle} {c : Option CoerceK} {ok : PyVal → Bool} {items : PyVal → List PyVal}
    (hg : TupleGate o c ok items) (env : Nat → V) (vid lp : Nat) (sl : List (V × (PyVal → Bool))) (x : PyVal)
    (hkids : SlotsDecide o env sl (items x)) :
    VDecides o env (.ntuple vid (sl.map Prod.fst) none c lp) x
      (ok x && (decide ((items x).length = sl.length) && allSlots sl (items x))) :=
  node_ntuple_validator o c env vid lp sl x (ok x) (items x) (hg.acc x) (hg.rej x) hkids

theorem slotsDecide_of_allZip {o : Oracle} {env : Nat → V} {S : Ann → PyVal → Bool} {vs : List V} {as : List Ann}
    (h : AllZip (fun v a => ∀ y, VDecides o env v y (S a y)) vs as) :
    ∀ ys, SlotsDecide o env (vs.zip (as.map S)) ys := by
  induction h with
  | nil => exact fun _ => trivial
  | cons hv _ ih => exact fun ys => match ys with
    | [] => trivial
    | y :: ys => ⟨hv y, ih ys⟩

/-- `S` holds slot by slot, and the lengths agree -/
def zipAll (S : Ann → PyVal → Bool) : List Ann → List PyVal → Bool
  | [], [] => true
  | a :: as, x :: xs => S a x && zipAll S as xs
  | _, _ => false

theorem zipAll_mono {S T : Ann → PyVal → Bool} : ∀ (as : List Ann), (∀ a ∈ as, ∀ x, S a x = true → T a x = true) →
    ∀ xs, zipAll S as xs = true → zipAll T as xs = true
  | [], _, [], _ => rfl
  | [], _, _ :: _, h => nomatch h
  | _ :: _, _, [], h => nomatch h
  | a :: as, hm, x :: xs, h => by
    simp only [zipAll, Bool.and_eq_true] at h ⊢
    exact ⟨hm a (by simp) x h.1, zipAll_mono as (fun b hb => hm b (by simp [hb])) xs h.2⟩

theorem zipAll_slots (S : Ann → PyVal → Bool) : ∀ (fs : List V) (as : List Ann) (xs : List PyVal), fs.length = as.length →
    zipAll S as xs = (decide (xs.length = as.length) && allSlots (fs.zip (as.map S)) xs)
  | [], [], [], _ => by simp [zipAll, allSlots]
  | [], [], x :: xs, _ => by simp [zipAll]
  | [], _ :: _, _, h => nomatch h
  | _ :: _, [], _, h => nomatch h
  | f :: fs, a :: as, [], _ => by simp [zipAll]
  | f :: fs, a :: as, x :: xs, h => by
    have ih := zipAll_slots S fs as xs (by simpa using h)
    simp only [zipAll, ih, List.map_cons, List.zip_cons_cons, allSlots, List.length_cons, Nat.add_right_cancel_iff]
    cases S a x <;> simp

def isTupleV : PyVal → Bool
  | .tuple _ _ => true
  | _ => false

def tupleItems : PyVal → List PyVal
  | .tuple _ xs => xs
  | _ => []

theorem isTupleV_ty (x : PyVal) : (x.ty = .tuple) ↔ isTupleV x = true := by
  cases x <;> simp [PyVal.ty, isTupleV]

theorem tupleGate_none (o : Oracle) : TupleGate o none isTupleV tupleItems where
  acc x h := by
    cases x <;> simp [isTupleV] at h
    rename_i oid xs
    exact ⟨oid, by simp [gate, PyVal.ty, tupleItems]⟩
  rej x h := by
    have hty : ¬ x.ty = .tuple := fun h' => by simp [(isTupleV_ty x).1 h'] at h
    exact ⟨.type .tuple, by simp [gate, hty]⟩

theorem node_utuple_plain (o : Oracle) (env : Nat → V) (vid : Nat) (item : V) (x : PyVal) (a : PyVal → Bool)
    (hitems : ∀ y ∈ tupleItems x, VDecides o env item y (a y)) :
    VDecides o env (.utuple vid item [] [] none) x (isTupleV x && (tupleItems x).all a) :=
  node_utuple_gate (tupleGate_none o) env vid item x a hitems

theorem node_ntuple_plain (o : Oracle) (env : Nat → V) (vid lp : Nat) (sl : List (V × (PyVal → Bool))) (x : PyVal)
    (hkids : SlotsDecide o env sl (tupleItems x)) :
    VDecides o env (.ntuple vid (sl.map Prod.fst) none none lp) x
      (isTupleV x && (decide ((tupleItems x).length = sl.length) && allSlots sl (tupleItems x))) :=
  node_ntuple_gate (tupleGate_none o) env vid lp sl x hkids

end Koda
