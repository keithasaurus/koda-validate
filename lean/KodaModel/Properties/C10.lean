/-
  C10 — JSON Schema generation returns a well-formed, serialisable schema or a TypeError.

  About `toSchema` (the transliteration of serialization/json_schema.py), for every validator tree:
  * `C10_outcome`: the result is a JSON *object* or `TypeError` — nothing else is raised — provided the
    abstract printer (`str()`, `isoformat()`, `re.escape` of bytes) is total, which CPython's is;
  * `C10_json_only_partial`: the object is made of JSON types only, for every tree whose Min / Max / EqualTo
    / Choices parameters are of the admitted types and finite (the excluded case is finding D11: a float
    nan / inf parameter is emitted as is — witness below);
  * `C10_ref`, `C10_lazy_unnamed`: a `Lazy` is never followed (`toSchema` does not even take the environment
    of definitions);
  * determinism and "leaves the validator unmodified" hold of any Lean function; on the real code
    they are the oracle's business (harness/schema_stream.py).
-/
import KodaModel.Schema

namespace Koda

theorem kw_inj {a b : String} : kw a = kw b ↔ a = b :=
  ⟨fun h => String.ext ((List.map_inj_right fun _ _ => Char.toNat_inj.1).1 h), congrArg kw⟩

/-- Keywords are compared as the strings they were written as: simp then settles two literals by `String.reduceEq`,
    whereas evaluating `kw` (`String.toList`) on each literal is slow, in the elaborator and in the kernel. -/
theorem kw_beq (a b : String) : (kw a == kw b) = decide (a = b) := by
  rw [Bool.beq_eq_decide_eq, decide_eq_decide, kw_inj]

theorem bind_eq_ok {ε α β : Type} {x : Except ε α} {f : α → Except ε β} {b : β} :
    (x >>= f) = .ok b ↔ ∃ a, x = .ok a ∧ f a = .ok b := by
  cases x <;> simp [bind, Except.bind]

/-- CPython's printers never fail on the constants they are applied to -/
structure Printer.Total (pr : Printer) : Prop where
  str : ∀ v, ∃ t, pr.str v = some t
  iso : ∀ v, ∃ t, pr.iso v = some t
  pat : ∀ b, ∃ t, pr.patBytes b = some t

def OkOrTE {α : Type} (r : Except Exn α) : Prop := (∃ a, r = .ok a) ∨ r = .error .typeError

@[simp] theorem okOrTE_ok {α : Type} (a : α) : OkOrTE (Except.ok a : Except Exn α) := Or.inl ⟨a, rfl⟩
@[simp] theorem okOrTE_te {α : Type} : OkOrTE (Except.error .typeError : Except Exn α) := Or.inr rfl

theorem enumValue_outcome (pr : Printer) (ht : pr.Total) (v : PyVal) : OkOrTE (enumValue pr v) := by
  cases v with
  | decimal d => obtain ⟨t, h⟩ := ht.str (.decimal d); simp [enumValue, h]
  | uuid u => obtain ⟨t, h⟩ := ht.str (.uuid u); simp [enumValue, h]
  | date d => obtain ⟨t, h⟩ := ht.iso (.date d); simp [enumValue, h]
  | datetime d o => obtain ⟨t, h⟩ := ht.iso (.datetime d o); simp [enumValue, h]
  | bytes b => simp only [enumValue]; cases pr.decode b <;> simp
  | str _ | int _ | float _ | bool _ => exact Or.inl ⟨_, rfl⟩
  | _ => exact Or.inr rfl

theorem enumValues_outcome (pr : Printer) (ht : pr.Total) (vs : List PyVal) : OkOrTE (enumValues pr vs) := by
  induction vs with
  | nil => exact Or.inl ⟨_, rfl⟩
  | cons v vs ih =>
    simp only [enumValues]
    rcases enumValue_outcome pr ht v with ⟨j, h⟩ | h
    · rcases ih with ⟨js, h2⟩ | h2 <;> simp [h, h2]
    · simp [h]

theorem boundSchema_outcome (pr : Printer) (ht : pr.Total) (v : PyVal) (excl : Bool) (a b c d : String) :
    OkOrTE (boundSchema pr v excl a b c d) := by
  unfold boundSchema
  split
  · have : ∃ t, fmtText pr v = some t := by
      cases v with
      | decimal d => exact ht.str _
      | _ => exact ht.iso _
    obtain ⟨t, h⟩ := this
    simp [h]
  · exact Or.inl ⟨_, rfl⟩

theorem predSchema_outcome (pr : Printer) (ht : pr.Total) (p : PredK) : OkOrTE (predSchema pr p) := by
  cases p with
  | min v e | max v e => exact boundSchema_outcome pr ht v e _ _ _ _
  | equalTo v =>
    simp only [predSchema]
    rcases enumValue_outcome pr ht v with ⟨j, h⟩ | h <;> simp [h]
  | choices vs =>
    simp only [predSchema]
    cases sortVals vs with
    | none => exact Or.inr rfl
    | some s => rcases enumValues_outcome pr ht s with ⟨js, h⟩ | h <;> simp [h]
  | startsWith q | endsWith q =>
    cases q with
    | str s => exact Or.inl ⟨_, rfl⟩
    | bytes b => obtain ⟨t, h⟩ := ht.pat b; simp [predSchema, h]
    | _ => exact Or.inr rfl
  | multipleOf _ | exactItemCount _ | user _ => exact Or.inr rfl
  | _ => exact Or.inl ⟨_, rfl⟩

theorem predsSchema_outcome (pr : Printer) (ht : pr.Total) (ps : List Pred) :
    ∀ base, OkOrTE (predsSchema pr base ps) := by
  induction ps with
  | nil => intro base; exact Or.inl ⟨_, rfl⟩
  | cons p ps ih =>
    intro base
    simp only [predsSchema]
    rcases predSchema_outcome pr ht p.k with ⟨o, h⟩ | h
    · simp only [h]; exact ih _
    · simp [h]

theorem baseSchema_outcome (t : Ty) : OkOrTE (baseSchema t) := by
  cases t <;> first | exact Or.inl ⟨_, rfl⟩ | exact Or.inr rfl

theorem labelsText_total (pr : Printer) (ht : pr.Total) (ks : List PyVal) : ∃ ts, labelsText pr ks = some ts := by
  induction ks with
  | nil => exact ⟨_, rfl⟩
  | cons k ks ih =>
    obtain ⟨ts, h⟩ := ih
    have : ∃ t, labelText pr k = some t := by
      cases k with
      | str s => exact ⟨_, rfl⟩
      | _ => exact ht.str _
    obtain ⟨t, h1⟩ := this
    exact ⟨t :: ts, by simp [labelsText, h, h1]⟩

def IsObj : J → Prop
  | .obj _ => True
  | _ => False

theorem okOrTE_of_obj {r : Except Exn J} (h : (∃ o, r = .ok (.obj o)) ∨ r = .error .typeError) : OkOrTE r :=
  h.imp (fun ⟨_, h⟩ => ⟨_, h⟩) id

theorem objOrTE_bind {α : Type} {x : Except Exn α} {f : α → Except Exn J} (hx : OkOrTE x)
    (hf : ∀ a, (∃ o, f a = .ok (.obj o)) ∨ f a = .error .typeError) :
    (∃ o, (x >>= f) = .ok (.obj o)) ∨ (x >>= f) = .error .typeError := by
  rcases hx with ⟨a, rfl⟩ | rfl
  · exact hf a
  · exact Or.inr rfl

mutual
/-- **C10 (outcome)**: for every validator tree — any depth, any width, any predicates — generation
    returns a JSON object or raises TypeError; no other exception, no other shape -/
theorem C10_outcome (pr : Printer) (ht : pr.Total) (ctx : RefCtx) (tvs nrs : List Nat) :
    ∀ v, (∃ o, toSchema pr ctx tvs nrs v = .ok (.obj o)) ∨ toSchema pr ctx tvs nrs v = .error .typeError := by
  intro v
  cases v with
  | scalar vid tg c pre ps aps =>
    simp only [toSchema]
    split
    · exact Or.inr rfl
    · exact objOrTE_bind (baseSchema_outcome tg) fun b =>
        objOrTE_bind (predsSchema_outcome pr ht (ps ++ aps) b) fun o => Or.inl ⟨o, rfl⟩
  | equals vid m pre pid =>
    simp only [toSchema]
    exact objOrTE_bind (baseSchema_outcome m.ty) fun b =>
      objOrTE_bind (predSchema_outcome pr ht (.equalTo m)) fun o => Or.inl ⟨_, rfl⟩
  | noneV _ _ | always _ | set _ _ _ _ _ | maybe _ _ | user _ _ => exact Or.inr rfl
  | isDict _ => exact Or.inl ⟨_, rfl⟩
  | list vid item ps aps c | utuple vid item ps aps c =>
    simp only [toSchema]
    exact objOrTE_bind (okOrTE_of_obj (C10_outcome pr ht ctx tvs nrs item)) fun it =>
      objOrTE_bind (predsSchema_outcome pr ht (ps ++ aps) _) fun o => Or.inl ⟨o, rfl⟩
  | ntuple vid fs oc lp c =>
    simp only [toSchema]
    exact objOrTE_bind (C10_outcomeL pr ht ctx tvs nrs fs) fun items => Or.inl ⟨_, rfl⟩
  | map vid key value ps aps c =>
    simp only [toSchema]
    exact objOrTE_bind (okOrTE_of_obj (C10_outcome pr ht ctx tvs nrs value)) fun it =>
      objOrTE_bind (predsSchema_outcome pr ht (ps ++ aps) _) fun o => Or.inl ⟨o, rfl⟩
  | record vid cfg vs =>
    simp only [toSchema]
    obtain ⟨ts, hl⟩ := labelsText_total pr ht cfg.keys
    exact objOrTE_bind (C10_outcomeL pr ht ctx tvs nrs vs) fun props => by simp [hl]
  | union vid vs =>
    simp only [toSchema]
    exact objOrTE_bind (C10_outcomeL pr ht ctx tvs nrs vs) fun items => Or.inl ⟨_, rfl⟩
  | optional vid nv inner =>
    simp only [toSchema]
    rcases C10_outcome pr ht ctx tvs nrs inner with ⟨it, hi⟩ | hi <;> simp [hi, bind, Except.bind]
  | lazy vid ref =>
    simp only [toSchema]
    cases ctx with
    | none => exact Or.inr rfl
    | some r =>
      simp only []
      split <;> exact Or.inl ⟨_, rfl⟩
  | knr vid inner => exact C10_outcome pr ht ctx tvs nrs inner
theorem C10_outcomeL (pr : Printer) (ht : pr.Total) (ctx : RefCtx) (tvs nrs : List Nat) :
    ∀ vs, (∃ js, toSchemaL pr ctx tvs nrs vs = .ok js) ∨ toSchemaL pr ctx tvs nrs vs = .error .typeError
  | [] => Or.inl ⟨_, rfl⟩
  | v :: vs => by
    simp only [toSchemaL]
    rcases C10_outcome pr ht ctx tvs nrs v with ⟨o, ho⟩ | ho
    · rcases C10_outcomeL pr ht ctx tvs nrs vs with ⟨js, hj⟩ | hj <;> simp [ho, hj, bind, Except.bind]
    · simp [ho, bind, Except.bind]
end

/-- a `Lazy` is never followed: in named mode it is the reference to the named schema -/
theorem C10_ref (pr : Printer) (ref : List Nat) (tvs nrs : List Nat) (vid r : Nat) (h : nrs.contains vid = false) :
    toSchema pr (some ref) tvs nrs (.lazy vid r) = .ok (.obj [(kw "$ref", .str ref)]) := by
  simp only [toSchema, h]; rfl

/-- `Lazy(…, recurrent=False)` yields the empty schema: the thunk is not called -/
theorem C10_nonrecurrent (pr : Printer) (ref : List Nat) (tvs nrs : List Nat) (vid r : Nat) (h : nrs.contains vid = true) :
    toSchema pr (some ref) tvs nrs (.lazy vid r) = .ok (.obj []) := by
  simp only [toSchema, h]; rfl

theorem C10_lazy_unnamed (pr : Printer) (tvs nrs : List Nat) (vid r : Nat) :
    toSchema pr none tvs nrs (.lazy vid r) = .error .typeError := by
  simp [toSchema]

def trivialPrinter : Printer := { str := fun _ => some [], iso := fun _ => some [], decode := fun b => some b, patBytes := fun b => some b }

example : toSchema trivialPrinter none [] [] (.scalar 1 .str none [] [⟨1, .minLength 2⟩, ⟨2, .minLength 3⟩] []) =
    .ok (.obj [(kw "type", .str (kw "string")), (kw "minLength", .int 2), (kw "allOf", .arr [.obj [(kw "minLength", .int 3)]])]) := by
  rfl

/-- D11 in the model: a float `inf` bound is emitted as is, which is not JSON -/
example : (match toSchema trivialPrinter none [] [] (.scalar 1 .float none [] [⟨1, .max (.float (.inf false)) false⟩] []) with
    | .ok j => jsonOnly j | .error _ => true) = false := by
  rfl

def finiteOrNotFloat : PyVal → Bool
  | .float (.fin _ _ _) => true
  | .float _ => false
  | _ => true

def boundOk : PyVal → Bool
  | .int _ => true
  | .bool _ => true
  | .float (.fin _ _ _) => true
  | .decimal _ => true
  | .date _ => true
  | .datetime _ _ => true
  | _ => false

def PredK.jsonSafe : PredK → Bool
  | .min v _ => boundOk v
  | .max v _ => boundOk v
  | .equalTo v => finiteOrNotFloat v
  | .choices vs => vs.all finiteOrNotFloat
  | _ => true

mutual
def V.jsonSafe : V → Bool
  | .scalar _ _ _ _ ps aps => (ps ++ aps).all (fun p => p.k.jsonSafe)
  | .equals _ m _ _ => finiteOrNotFloat m
  | .list _ item ps aps _ => item.jsonSafe && (ps ++ aps).all (fun p => p.k.jsonSafe)
  | .utuple _ item ps aps _ => item.jsonSafe && (ps ++ aps).all (fun p => p.k.jsonSafe)
  | .set _ item _ _ _ => item.jsonSafe
  | .ntuple _ fs _ _ _ => V.jsonSafeL fs
  | .map _ k v ps aps _ => k.jsonSafe && v.jsonSafe && (ps ++ aps).all (fun p => p.k.jsonSafe)
  | .record _ _ vs => V.jsonSafeL vs
  | .union _ vs => V.jsonSafeL vs
  | .optional _ _ inner => inner.jsonSafe
  | .maybe _ inner => inner.jsonSafe
  | .knr _ inner => inner.jsonSafe
  | .user _ inner => inner.jsonSafe
  | _ => true
termination_by structural v => v
def V.jsonSafeL : List V → Bool
  | [] => true
  | v :: vs => v.jsonSafe && V.jsonSafeL vs
termination_by structural vs => vs
end

/-! `jsonOnlyO` here, `wfO` and `wfVals` in C10WF say that a predicate holds of each entry of an object; the dictionary
operations of the generator preserve every such predicate. -/

theorem mem_jset (o : JObj) (k : List Nat) (v : J) (e : List Nat × J) (h : e ∈ jset o k v) :
    e ∈ o ∨ ((e.1 == k) = true ∧ e.2 = v) := by
  induction o with
  | nil => exact .inr (by rw [List.mem_singleton.1 h]; exact ⟨beq_self_eq_true k, rfl⟩)
  | cons p ps ih =>
    rw [jset] at h
    split at h <;> rcases List.mem_cons.1 h with rfl | h
    · exact .inr ⟨‹_›, rfl⟩
    · exact .inl (List.mem_cons_of_mem _ h)
    · exact .inl List.mem_cons_self
    · exact (ih h).imp_left (List.mem_cons_of_mem _)

theorem all_jset (P : List Nat × J → Bool) (o : JObj) (k : List Nat) (v : J) (ho : o.all P = true)
    (hv : P (k, v) = true) : (jset o k v).all P = true :=
  List.all_eq_true.2 fun e he => (mem_jset o k v e he).elim (List.all_eq_true.1 ho e) fun ⟨hk, he2⟩ => by
    rw [← hv, ← beq_iff_eq.1 hk, ← he2]

theorem all_jupdate (P : List Nat × J → Bool) (b : JObj) :
    ∀ a : JObj, a.all P = true → b.all P = true → (jupdate a b).all P = true := by
  induction b with
  | nil => intro a ha _; exact ha
  | cons x xs ih =>
    intro a ha hb
    simp only [List.all_cons, Bool.and_eq_true] at hb
    exact ih _ (all_jset P a x.1 x.2 ha hb.1) hb.2

/-- `P` of the `allOf` entry survives `_add_predicate_schema` appending an object whose entries satisfy `P` -/
def AllOfClosed (P : List Nat × J → Bool) : Prop :=
  ∀ (b : JObj) (xs : List J), b.all P = true → (xs = [] ∨ P (kw "allOf", .arr xs) = true) →
    P (kw "allOf", .arr (xs ++ [.obj b])) = true

theorem all_jaddPred (P : List Nat × J → Bool) (hP : AllOfClosed P) (a b : JObj) (ha : a.all P = true)
    (hb : b.all P = true) : (jaddPred a b).all P = true := by
  unfold jaddPred
  split
  · split
    · rename_i k xs hf
      have hk : k = kw "allOf" := by simpa using List.find?_some hf
      have hx := List.all_eq_true.1 ha _ (List.mem_of_find?_eq_some hf)
      exact all_jset P a _ _ ha (hP b xs hb (Or.inr (hk ▸ hx)))
    · exact all_jset P a _ _ ha (hP b [] hb (Or.inl rfl))
  · exact all_jupdate P b a ha hb

/-- induction along `predsSchema`; `b` records which predicates satisfy `g` -/
theorem predsSchema_induct (pr : Printer) (g : Pred → Bool) (P : Bool → JObj → Prop) :
    ∀ (ps : List Pred) (b : Bool) (acc o : JObj),
      (∀ p ∈ ps, ∀ b acc po, P b acc → predSchema pr p.k = .ok po → P (b && g p) (jaddPred acc po)) →
      P b acc → predsSchema pr acc ps = .ok o → P (b && ps.all g) o
  | [], b, acc, o, _, h0, h => by cases h; rwa [List.all_nil, Bool.and_true]
  | p :: ps, b, acc, o, hstep, h0, h => by
    rw [predsSchema] at h
    split at h
    · cases h
    · rename_i po hpo
      rw [List.all_cons, ← Bool.and_assoc]
      exact predsSchema_induct pr g P ps _ _ o (fun q hq => hstep q (List.mem_cons_of_mem p hq))
        (hstep p List.mem_cons_self b acc po h0 hpo) h

theorem all_predsSchema (pr : Printer) (P : List Nat × J → Bool) (hP : AllOfClosed P) (S : PredK → Bool)
    (hS : ∀ p o, S p = true → predSchema pr p = .ok o → o.all P = true) (ps : List Pred) (base o : JObj)
    (hps : ps.all (fun p => S p.k) = true) (hb : base.all P = true) (h : predsSchema pr base ps = .ok o) :
    o.all P = true :=
  predsSchema_induct pr (fun _ => true) (fun _ a => a.all P = true) ps true base o
    (fun p hm _ a po ha hpo => all_jaddPred P hP a po ha (hS p.k po (List.all_eq_true.1 hps p hm) hpo)) hb h

theorem all_zip_snd {α β : Type} (Q : β → Bool) (ls : List α) (xs : List β) (h : xs.all Q = true) :
    (ls.zip xs).all (fun p => Q p.2) = true :=
  List.all_eq_true.2 fun _ hp => List.all_eq_true.1 h _ (List.of_mem_zip hp).2

theorem jsonOnlyL_eq_all (xs : List J) : jsonOnlyL xs = xs.all jsonOnly := by
  induction xs with
  | nil => rfl
  | cons x xs ih => rw [jsonOnlyL, ih, List.all_cons]

theorem jsonOnlyO_eq_all (o : JObj) : jsonOnlyO o = o.all (fun p => jsonOnly p.2) := by
  induction o with
  | nil => rfl
  | cons x xs ih => rw [jsonOnlyO, ih, List.all_cons]

theorem allOfClosed_jsonOnly : AllOfClosed (fun p => jsonOnly p.2) := by
  intro b xs hb hx
  have hxs : xs.all jsonOnly = true := by
    rcases hx with rfl | hx
    · rfl
    · simpa only [jsonOnly, jsonOnlyL_eq_all] using hx
  rw [← jsonOnlyO_eq_all] at hb
  simp only [jsonOnly, jsonOnlyL_eq_all, List.all_append, hxs, List.all_cons, hb, List.all_nil, Bool.and_self]

theorem jsonOnlyO_jaddPred (a b : JObj) (ha : jsonOnlyO a = true) (hb : jsonOnlyO b = true) :
    jsonOnlyO (jaddPred a b) = true := by
  rw [jsonOnlyO_eq_all] at *
  exact all_jaddPred _ allOfClosed_jsonOnly a b ha hb

theorem enumValue_jsonOnly (pr : Printer) (v : PyVal) (j : J) (hv : finiteOrNotFloat v = true)
    (h : enumValue pr v = .ok j) : jsonOnly j = true := by
  cases v with
  | float f => cases h; cases f <;> first | rfl | cases hv
  | str _ | int _ | bool _ => cases h; rfl
  | date _ | datetime _ _ | decimal _ | uuid _ | bytes _ =>
    simp only [enumValue] at h
    split at h <;> cases h
    rfl
  | _ => cases h

theorem enumValues_jsonOnly (pr : Printer) : ∀ (vs : List PyVal) (js : List J),
    vs.all finiteOrNotFloat = true → enumValues pr vs = .ok js → jsonOnlyL js = true
  | [], js, _, h => by cases h; rfl
  | v :: vs, js, hv, h => by
    rw [List.all_cons, Bool.and_eq_true] at hv
    rw [enumValues] at h
    split at h
    · cases h
    · rename_i j hj
      split at h <;> cases h
      rename_i js' hjs
      rw [jsonOnlyL, enumValue_jsonOnly pr v j hv.1 hj, enumValues_jsonOnly pr vs js' hv.2 hjs]
      rfl

theorem insertSorted_mem (x : PyVal) : ∀ (ys r : List PyVal), insertSorted x ys = some r → ∀ z, z ∈ r ↔ z = x ∨ z ∈ ys
  | [], r, h, z => by cases h; rw [List.mem_singleton, List.mem_nil_iff, or_false]
  | y :: ys, r, h, z => by
    rw [insertSorted] at h
    split at h
    · cases h; exact List.mem_cons
    · cases hi : insertSorted x ys with
      | none => rw [hi] at h; cases h
      | some r' =>
        rw [hi] at h; cases h
        rw [List.mem_cons, List.mem_cons, insertSorted_mem x ys r' hi z, or_left_comm]
    · cases h

theorem sortVals_mem : ∀ (vs s : List PyVal), sortVals vs = some s → ∀ z, z ∈ s ↔ z ∈ vs
  | [], s, h, z => by cases h; rfl
  | v :: vs, s, h, z => by
    rw [sortVals] at h
    cases hs : sortVals vs with
    | none => rw [hs] at h; cases h
    | some s' =>
      rw [hs] at h
      rw [insertSorted_mem v s' s h z, sortVals_mem vs s' hs z, List.mem_cons]

theorem boundSchema_ok {pr : Printer} {v : PyVal} {e : Bool} {a b c d : String} {o : JObj}
    (h : boundSchema pr v e a b c d = .ok o) :
    (isFmtTy v = true ∧ ∃ t, o = [(kw (if e then c else d), .str t)]) ∨
      (isFmtTy v = false ∧ o = [(kw (if e then a else b), rawJ v)]) := by
  unfold boundSchema at h
  split at h
  · split at h <;> cases h
    exact .inl ⟨‹_›, _, rfl⟩
  · cases h
    exact .inr ⟨Bool.eq_false_iff.2 ‹_›, rfl⟩

theorem boundSchema_jsonOnly (pr : Printer) (v : PyVal) (excl : Bool) (a b c d : String) (o : JObj)
    (hv : boundOk v = true) (h : boundSchema pr v excl a b c d = .ok o) : jsonOnlyO o = true := by
  rcases boundSchema_ok h with ⟨_, t, rfl⟩ | ⟨hfmt, rfl⟩
  · rfl
  · cases v with
    | float f => cases f <;> first | rfl | cases hv
    | int _ | bool _ => rfl
    | decimal _ | date _ | datetime _ _ => cases hfmt
    | _ => cases hv

theorem predSchema_affix (pr : Printer) (q : PyVal) (o : JObj)
    (h : predSchema pr (.startsWith q) = .ok o ∨ predSchema pr (.endsWith q) = .ok o) :
    ∃ s, o = [(kw "pattern", .str s)] := by
  cases q with
  | str s => rcases h with h | h <;> cases h <;> exact ⟨_, rfl⟩
  | bytes b =>
    simp only [predSchema] at h
    rcases h with h | h <;> split at h <;> cases h <;> exact ⟨_, rfl⟩
  | _ => rcases h with h | h <;> cases h

theorem predSchema_jsonOnly (pr : Printer) (p : PredK) (o : JObj) (hp : p.jsonSafe = true)
    (h : predSchema pr p = .ok o) : jsonOnlyO o = true := by
  cases p with
  | min v e | max v e => exact boundSchema_jsonOnly pr v e _ _ _ _ o hp h
  | equalTo v =>
    simp only [predSchema] at h
    split at h <;> cases h
    rename_i j hj
    simp [jsonOnlyO, jsonOnly, jsonOnlyL, enumValue_jsonOnly pr v j hp hj]
  | choices vs =>
    simp only [predSchema] at h
    split at h
    · rename_i s hs
      split at h <;> cases h
      rename_i js hjs
      have hall : s.all finiteOrNotFloat = true :=
        List.all_eq_true.2 fun z hz => List.all_eq_true.1 hp z ((sortVals_mem vs s hs z).1 hz)
      simp [jsonOnlyO, jsonOnly, enumValues_jsonOnly pr s js hall hjs]
    · cases h
  | startsWith q => obtain ⟨s, rfl⟩ := predSchema_affix pr q o (.inl h); rfl
  | endsWith q => obtain ⟨s, rfl⟩ := predSchema_affix pr q o (.inr h); rfl
  | multipleOf _ | exactItemCount _ | user _ => cases h
  | _ => cases h; rfl

theorem predsSchema_jsonOnly (pr : Printer) (ps : List Pred) (base o : JObj)
    (hps : ps.all (fun p => p.k.jsonSafe) = true) (hb : jsonOnlyO base = true) (h : predsSchema pr base ps = .ok o) :
    jsonOnlyO o = true := by
  rw [jsonOnlyO_eq_all] at hb ⊢
  exact all_predsSchema pr _ allOfClosed_jsonOnly PredK.jsonSafe
    (fun p o hp h => jsonOnlyO_eq_all o ▸ predSchema_jsonOnly pr p o hp h) ps base o hps hb h

theorem baseSchema_jsonOnly (t : Ty) (o : JObj) (h : baseSchema t = .ok o) : jsonOnlyO o = true := by
  cases t <;> cases h <;> rfl

theorem all_append_safe (ps aps : List Pred) (h : (ps ++ aps).all (fun p => p.k.jsonSafe) = true) :
    (ps ++ aps).all (fun p => p.k.jsonSafe) = true := h

theorem jsonOnlyL_map_str (ts : List (List Nat)) : jsonOnlyL (ts.map J.str) = true := by
  induction ts with
  | nil => rfl
  | cons t ts ih => simp [jsonOnlyL, jsonOnly, ih]

mutual
/-- **C10 (JSON types only)**: whenever generation succeeds on a tree whose bound / choice parameters
    are of admitted types and finite, the schema contains no bytes, Decimal, date, NaN or other
    non-JSON object.  (`_partial`: the unrestricted statement is false on the code — finding D11.) -/
theorem C10_json_only_partial (pr : Printer) (ctx : RefCtx) (tvs nrs : List Nat) :
    ∀ (v : V) (j : J), v.jsonSafe = true → toSchema pr ctx tvs nrs v = .ok j → jsonOnly j = true := by
  intro v j hs h
  cases v with
  | scalar vid tg c pre ps aps =>
    simp only [toSchema] at h
    split at h
    · cases h
    · simp only [bind_eq_ok, Except.ok.injEq] at h
      obtain ⟨b, hb, o, hp, rfl⟩ := h
      exact predsSchema_jsonOnly pr _ b o hs (baseSchema_jsonOnly tg b hb) hp
  | equals vid m pre pid =>
    simp only [toSchema, bind_eq_ok, Except.ok.injEq] at h
    obtain ⟨b, hb, o, hp, rfl⟩ := h
    rw [jsonOnly, jsonOnlyO_eq_all]
    exact all_jupdate _ o b (jsonOnlyO_eq_all b ▸ baseSchema_jsonOnly _ b hb)
      (jsonOnlyO_eq_all o ▸ predSchema_jsonOnly pr (.equalTo m) o hs hp)
  | noneV _ _ | always _ | set _ _ _ _ _ | maybe _ _ | user _ _ => cases h
  | isDict _ => cases h; rfl
  | list vid item ps aps c | utuple vid item ps aps c =>
    simp only [toSchema, bind_eq_ok, Except.ok.injEq] at h
    obtain ⟨it, hi, o, hp, rfl⟩ := h
    simp only [V.jsonSafe, Bool.and_eq_true] at hs
    have hit := C10_json_only_partial pr ctx tvs nrs item it hs.1 hi
    exact predsSchema_jsonOnly pr _ _ o hs.2 (by simp [jsonOnlyO, jsonOnly, hit]) hp
  | ntuple vid fs oc lp c =>
    simp only [toSchema, bind_eq_ok, Except.ok.injEq] at h
    obtain ⟨items, hi, rfl⟩ := h
    have hit := C10_json_only_partialL pr ctx tvs nrs fs items hs hi
    rw [jsonOnly, jsonOnlyO_eq_all, List.all_append]
    split <;> simp [jsonOnly, hit]
  | map vid key value ps aps c =>
    simp only [toSchema, bind_eq_ok, Except.ok.injEq] at h
    obtain ⟨it, hi, o, hp, rfl⟩ := h
    simp only [V.jsonSafe, Bool.and_eq_true] at hs
    have hit := C10_json_only_partial pr ctx tvs nrs value it hs.1.2 hi
    exact predsSchema_jsonOnly pr _ _ o hs.2 (by simp [jsonOnlyO, jsonOnly, hit]) hp
  | record vid cfg vs =>
    simp only [toSchema, bind_eq_ok] at h
    obtain ⟨props, hi, h⟩ := h
    have hit := C10_json_only_partialL pr ctx tvs nrs vs props hs hi
    split at h
    · cases h
    · rename_i labels _
      cases h
      have hprops := all_jupdate _ (labels.zip props) [] rfl
        (all_zip_snd jsonOnly labels props (jsonOnlyL_eq_all props ▸ hit))
      simp only [jsonOnly, jsonOnlyO, Bool.and_eq_true, Bool.and_true]
      refine ⟨trivial, trivial, ?_, jsonOnlyO_eq_all _ ▸ hprops⟩
      split <;> exact jsonOnlyL_map_str _
  | union vid vs =>
    simp only [toSchema, bind_eq_ok, Except.ok.injEq] at h
    obtain ⟨items, hi, rfl⟩ := h
    simp [jsonOnly, jsonOnlyO, C10_json_only_partialL pr ctx tvs nrs vs items hs hi]
  | optional vid nv inner =>
    simp only [toSchema, bind_eq_ok] at h
    obtain ⟨it, hi, h⟩ := h
    have hit := C10_json_only_partial pr ctx tvs nrs inner it hs hi
    split at h
    · cases h
      rw [jsonOnly, jsonOnlyO_eq_all] at hit ⊢
      exact all_jset _ _ _ _ hit rfl
    · cases h
  | lazy vid ref =>
    simp only [toSchema] at h
    cases ctx with
    | none => simp at h
    | some r =>
      simp only [] at h
      split at h <;> cases h <;> rfl
  | knr vid inner => exact C10_json_only_partial pr ctx tvs nrs inner j hs h
theorem C10_json_only_partialL (pr : Printer) (ctx : RefCtx) (tvs nrs : List Nat) :
    ∀ (vs : List V) (js : List J), V.jsonSafeL vs = true → toSchemaL pr ctx tvs nrs vs = .ok js → jsonOnlyL js = true
  | [], js, _, h => by cases h; rfl
  | v :: vs, js, hs, h => by
    simp only [toSchemaL, bind_eq_ok, Except.ok.injEq] at h
    obtain ⟨s, hv, ss, hr, rfl⟩ := h
    simp only [V.jsonSafeL, Bool.and_eq_true] at hs
    simp [jsonOnlyL, C10_json_only_partial pr ctx tvs nrs v s hs.1 hv,
      C10_json_only_partialL pr ctx tvs nrs vs ss hs.2 hr]
end

end Koda
