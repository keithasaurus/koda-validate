/-
  C04 — `DataclassValidator` and `NamedTupleValidator` *as written in /repo's current source*.

  `Generated/DictAnySrc.lean` (regenerated on every run) also holds the translations of `_validate_to_tuple` /
  `_validate_to_tuple_async` of both classes (dataclasses.py, namedtuple.py); apart from the names `data_cls` /
  `named_tuple_cls` and the way an instance becomes a dict (`_dataclass_instance_to_dict(val)` / `val._asdict()`) the
  four bodies are the same text (`src_class_same`).  Interpreting them is the model's `recordStep` for the `dataclass` /
  `namedtuple` kind: a plain dict or an instance of *exactly* the target class (or what the coercer returns), undeclared
  keys first, every declared key on the coerced value, the target class called with the payloads as keyword arguments
  (absent fields take the class's defaults), the whole-object check(s) on the instance.
-/
import KodaModel.Properties.C04Record
import KodaModel.Properties.C04TypedDict

namespace Koda

/-- the gate, with the oracle-free reading of the coercer call -/
def clsGate (cfg : DictAnyCfg) (x : PyVal) : Gate :=
  match cfg.coerce with
  | some c => applyCoerce default .dict .dict cfg.cls c x
  | none =>
    if x.ty = .dict then .acc x []
    else
      match x with
      | .inst _ doid c' names vals =>
        if c' = cfg.cls then
          (if cfg.isNT || cfg.cls.slots then .acc (instDict 0 names vals) [] else .acc (instDict doid names vals) [])
        else .rej (.coercion [.dict, .cls cfg.cls] (.cls cfg.cls)) []
      | _ => .rej (.coercion [.dict, .cls cfg.cls] (.cls cfg.cls)) []

theorem recGate_class (o : Oracle) (cfg : DictAnyCfg) (x : PyVal) : recGate o cfg.toClass x = clsGate cfg x := by
  unfold clsGate
  cases hnt : cfg.isNT <;> simp only [recGate, DictAnyCfg.toClass, hnt, Bool.false_eq_true, if_false, if_true] <;>
    cases cfg.coerce with
    | none => simp only [reduceCtorEq, decide_false, decide_true]; rfl
    | some c => exact applyCoerce_dict_oracle o cfg.cls c x

def cGate : DStmt :=
  coerceGate [.ite (.typeIs .data .dictTy) [.assign .coercedVal .data]
    [.ite (.typeIs .data (.selfAttr .targetCls)) [.assign .coercedVal (.instToDict .data)]
       [.ret (.pair (.bool false) (.mkInvalid (.mkCoercionErr .dictOrCls (.selfAttr .targetCls)) .data .self))]]]

def cFinal (m : Mode) : DStmt := objFinal m (.var .coercedVal) (.construct (.var .successDict))

theorem dataclassSync_eq : Src.dataclassSync = dGuard :: tBody .sync cGate (cFinal .sync) := rfl
theorem dataclassAsync_eq : Src.dataclassAsync = tBody .async cGate (cFinal .async) := rfl

/-- the NamedTuple validator's methods are the dataclass validator's, word for word (after the two renamings) -/
theorem src_class_same : Src.namedTupleSync = Src.dataclassSync ∧ Src.namedTupleAsync = Src.dataclassAsync := ⟨rfl, rfl⟩

theorem ty_ne_target (cls : ClassId) (x : PyVal) (hinst : ¬ ∃ oid doid names vals, x = .inst oid doid cls names vals)
    (hwf : ∀ c v, x = .sub c v → c ≠ cls) : x.ty ≠ Ty.cls cls := by
  cases x with
  | inst oid doid c' names vals =>
    have : c' ≠ cls := fun h => hinst ⟨oid, doid, names, vals, by rw [h]⟩
    simp [PyVal.ty, this]
  | sub c v => simp [PyVal.ty, hwf c v rfl]
  | _ => simp [PyVal.ty]

theorem clsGate_dict (cfg : DictAnyCfg) (x : PyVal) (hc : cfg.coerce = none) (hty : x.ty = .dict) :
    clsGate cfg x = .acc x [] := by
  simp [clsGate, hc, hty]

theorem clsGate_inst (cfg : DictAnyCfg) (oid doid : Nat) (names : List String) (vals : List PyVal) (hc : cfg.coerce = none) :
    clsGate cfg (.inst oid doid cfg.cls names vals) =
      .acc (if cfg.isNT || cfg.cls.slots then instDict 0 names vals else instDict doid names vals) [] := by
  simp only [clsGate, hc, PyVal.ty, reduceCtorEq, if_false, if_true]
  split <;> rfl

theorem clsGate_rej (cfg : DictAnyCfg) (x : PyVal) (hc : cfg.coerce = none) (hty : x.ty ≠ .dict)
    (hinst : ¬ ∃ oid doid names vals, x = .inst oid doid cfg.cls names vals) :
    clsGate cfg x = .rej (.coercion [.dict, .cls cfg.cls] (.cls cfg.cls)) [] := by
  simp only [clsGate, hc, if_neg hty]
  cases x with
  | inst oid doid c' names vals =>
    have : c' ≠ cfg.cls := fun h => hinst ⟨oid, doid, names, vals, by rw [h]⟩
    simp [this]
  | _ => rfl

/-- `hwf`: no builtin-subclass value poses as an instance of the target class -/
theorem cGate_exec (cfg : DictAnyCfg) (x : PyVal) (hwf : ∀ c v, x = .sub c v → c ≠ cfg.cls) :
    GateOK cfg x [cGate] (.var .coercedVal) (clsGate cfg x) := by
  refine coerceGate_ok cfg x _ _ (fun hc => ?_) (fun c hc => by simp only [clsGate, hc])
  by_cases hty : x.ty = .dict
  · rw [clsGate_dict cfg x hc hty, ← if_pos hty (t := Gate.acc x []) (e := Gate.acc x [])]
    exact dictElse_ok cfg x _ _ fun h => absurd hty h
  · -- not a dict: an instance of exactly the target class, or a coercion error
    have hsplit : ∀ G, clsGate cfg x = G → clsGate cfg x = if x.ty = .dict then .acc x [] else G :=
      fun G h => by rw [if_neg hty, h]
    have hc2 : ∀ st : DSt, (DExp.typeIs .data (.selfAttr .targetCls)).eval cfg x st =
        .ok (.bool (decide (x.ty = .cls cfg.cls)), st) := fun _ => rfl
    by_cases hinst : ∃ oid doid names vals, x = .inst oid doid cfg.cls names vals
    · obtain ⟨oid, doid, names, vals, rfl⟩ := hinst
      rw [hsplit _ (clsGate_inst cfg oid doid names vals hc)]
      refine dictElse_ok cfg _ _ _ fun _ st rest => ?_
      have hb : decide ((PyVal.inst oid doid cfg.cls names vals).ty = Ty.cls cfg.cls) = true := decide_eq_true rfl
      rw [List.singleton_append, dexecL_ite_cons, hc2, hb]
      exact ⟨_, dexecL_assign_cons cfg _ st st _ _ _ _ rfl, denotes_coercedVal cfg _ _ _ rfl, (List.append_nil _).symm⟩
    · rw [hsplit _ (clsGate_rej cfg x hc hty hinst)]
      refine dictElse_ok cfg x _ _ fun _ st rest => ?_
      rw [List.singleton_append, dexecL_ite_cons, hc2, decide_eq_false (ty_ne_target cfg.cls x hinst hwf)]
      exact retInvalid_ok cfg x _ (.var .coercedVal) _ (fun _ => rfl) st rest

theorem cFinal_keys (cfg : DictAnyCfg) (x y : PyVal) (m : Mode) :
    KeysFin cfg x y (SInv cfg x (.var .coercedVal) y []) [cFinal m] :=
  fun st _ es hne hinv => outD_keysInvalid cfg x st (.var .coercedVal) y es _ _ hinv.er hne (hinv.rd st rfl)

/-- `obj = self.<target class>(**success_dict)`, then the checks on `obj` -/
theorem cFinal_ok (cfg : DictAnyCfg) (x y : PyVal) (m : Mode) (st : DSt) (got : List (Option PyVal))
    (hinv : SInv cfg x (.var .coercedVal) y [] st (cfg.keys.zip got) []) :
    outD (DStmt.execL cfg x st [cFinal m]) = some (finishChecks m cfg (recBuild cfg.toClass got) st.tr) := by
  obtain ⟨_, her, sd, hsd, hex⟩ := hinv
  have hb : (DExp.construct (.var .successDict)).eval cfg x st = .ok (.built (construct cfg.toClass sd), st) := by
    have hv : (DExp.var .successDict).eval cfg x st = .ok (.dictPayload sd, st) := by rw [← hsd]; rfl
    unfold DExp.eval
    simp only [hv]
  have hbuild : recBuild cfg.toClass got = construct cfg.toClass sd := by
    rw [hex rfl]
    cases h : cfg.isNT <;> simp [recBuild, DictAnyCfg.toClass, pairsOf, h]
  rw [hbuild]
  exact objFinal_ok cfg x m _ _ st st _ her hb

theorem cTail_exec (cfg : DictAnyCfg) (x y : PyVal) (m : Mode) (st : DSt) (data : List (PyVal × PyVal))
    (hy : dictItems y = some data) (hrd : Denotes cfg x (.var .coercedVal) y st) :
    outD (DStmt.execL cfg x st [.assign .successDict .emptyDict, .assign .errs .emptyDict, tLoop m, cFinal m]) =
      recRest cfg m cfg.toClass y data st.tr := by
  have hti : (if cfg.toClass.kind = .record then [Ev.into cfg.toClass.intoId] else []) = [] := by
    cases h : cfg.isNT <;> simp [DictAnyCfg.toClass, h]
  exact tTail_exec cfg x y m cfg.toClass rfl rfl hti (cFinal m) (cFinal_keys cfg x y m) (cFinal_ok cfg x y m) st data hy hrd

theorem clsGate_noexn (cfg : DictAnyCfg) (x : PyVal) (e : Exn) (t : List Ev) : clsGate cfg x ≠ .exn e t := by
  rw [← recGate_class default]
  exact (recGate_wf default cfg.toClass x).ne_exn e t

/-- `hdict`: what the coercer returns is a dict (the model's completion for other values - `TypeError`
    before anything is looked at - is not what Python does for, say, a list) -/
theorem src_class_generic (o : Oracle) (cfg : DictAnyCfg) (x : PyVal) (m : Mode)
    (hdict : ∀ y t, clsGate cfg x = .acc y t → (dictItems y).isSome = true)
    (hwf : ∀ c v, x = .sub c v → c ≠ cfg.cls) :
    outD (DStmt.execL cfg x { env := {}, tr := [] } (guardOf m ++ tBody m cGate (cFinal m))) =
      recordStep o m cfg.vid cfg.toClass cfg.evs x := by
  refine recMethod_exec cfg x o m cfg.toClass rfl rfl rfl rfl [cGate] (.var .coercedVal) _ ?_ ?_ fun st y data hy hrd =>
    cTail_exec cfg x y m st data hy hrd
  · rw [recGate_class]; exact cGate_exec cfg x hwf
  · rw [recGate_class]; exact hdict

/-- **the synchronous `DataclassValidator`, as written in the source, is the model's `recordStep`** -/
theorem src_dataclass_sync (o : Oracle) (cfg : DictAnyCfg) (x : PyVal)
    (hdict : ∀ y t, clsGate cfg x = .acc y t → (dictItems y).isSome = true)
    (hwf : ∀ c v, x = .sub c v → c ≠ cfg.cls) :
    runDictAnyMethod cfg Src.dataclassSync x = recordStep o .sync cfg.vid cfg.toClass cfg.evs x := by
  rw [runDictAnyMethod_eq, dataclassSync_eq]
  exact src_class_generic o cfg x .sync hdict hwf

/-- **the asynchronous `DataclassValidator`, as written in the source, is the model's `recordStep`** -/
theorem src_dataclass_async (o : Oracle) (cfg : DictAnyCfg) (x : PyVal)
    (hdict : ∀ y t, clsGate cfg x = .acc y t → (dictItems y).isSome = true)
    (hwf : ∀ c v, x = .sub c v → c ≠ cfg.cls) :
    runDictAnyMethod cfg Src.dataclassAsync x = recordStep o .async cfg.vid cfg.toClass cfg.evs x := by
  rw [runDictAnyMethod_eq, dataclassAsync_eq]
  exact src_class_generic o cfg x .async hdict hwf

/-- with no coercer (the default) what the gate lets through is a dict -/
theorem clsGate_dict_of_no_coercer (cfg : DictAnyCfg) (x : PyVal) (hc : cfg.coerce = none) :
    ∀ y t, clsGate cfg x = .acc y t → (dictItems y).isSome = true := by
  intro y t h
  by_cases hty : x.ty = .dict
  · rw [clsGate_dict cfg x hc hty] at h
    simp only [Gate.acc.injEq] at h
    obtain ⟨rfl, _⟩ := h
    obtain ⟨oid, kvs, rfl⟩ := dict_of_ty x hty
    rfl
  · by_cases hinst : ∃ oid doid names vals, x = .inst oid doid cfg.cls names vals
    · obtain ⟨oid, doid, names, vals, rfl⟩ := hinst
      rw [clsGate_inst cfg oid doid names vals hc] at h
      simp only [Gate.acc.injEq] at h
      obtain ⟨rfl, _⟩ := h
      split <;> rfl
    · rw [clsGate_rej cfg x hc hty hinst] at h
      simp at h

/-- **`NamedTupleValidator`**: the same two theorems (its methods are the same text, `isNT` tells the model which class
    kind it is) -/
theorem src_namedtuple_sync (o : Oracle) (cfg : DictAnyCfg) (x : PyVal)
    (hdict : ∀ y t, clsGate cfg x = .acc y t → (dictItems y).isSome = true) (hwf : ∀ c v, x = .sub c v → c ≠ cfg.cls) :
    runDictAnyMethod cfg Src.namedTupleSync x = recordStep o .sync cfg.vid cfg.toClass cfg.evs x := by
  rw [src_class_same.1]; exact src_dataclass_sync o cfg x hdict hwf

theorem src_namedtuple_async (o : Oracle) (cfg : DictAnyCfg) (x : PyVal)
    (hdict : ∀ y t, clsGate cfg x = .acc y t → (dictItems y).isSome = true) (hwf : ∀ c v, x = .sub c v → c ≠ cfg.cls) :
    runDictAnyMethod cfg Src.namedTupleAsync x = recordStep o .async cfg.vid cfg.toClass cfg.evs x := by
  rw [src_class_same.2]; exact src_dataclass_async o cfg x hdict hwf

/-- how an instance becomes a dict (pinned text): its `__dict__` itself when it has one, else a new dict of the fields
    that hold a value -/
theorem src_instance_to_dict : Src.instanceToDict =
    "if hasattr(val, '__dict__'):     instance_dict: Dict[str, Any] = val.__dict__     return instance_dict ; return {f.name: getattr(val, f.name) for f in fields(val) if hasattr(val, f.name)}" := rfl

/-- the three class-derived validators' `__init__`s (schema derivation, `_fast_keys_*`, `_keys_set`, `_unknown_keys_err`,
    `_disallow_synchronous`): pinned text -/
theorem src_class_inits : Src.classInits =
    ["DataclassValidator.__init__: if not is_dataclass(data_cls):     raise TypeError('Must be a dataclass') ; self.data_cls = cast(Type[_DCT], data_cls) ; self.fail_on_unknown_keys = fail_on_unknown_keys ; self.overrides = overrides ; self.coerce = coerce ; if validate_object and validate_object_async:     _raise_cannot_define_validate_object_and_validate_object_async() ; self.validate_object = validate_object ; self.validate_object_async = validate_object_async ; self._disallow_synchronous = bool(validate_object_async) ; keys_with_defaults: Set[str] = {k for k, v in inspect.signature(self.data_cls).parameters.items() if v.default != inspect.Parameter.empty} ; if sys.version_info >= (3, 9):     type_hints = get_type_hints(self.data_cls, include_extras=True) else:     type_hints = get_type_hints(self.data_cls) ; overrides = self.overrides or {} ; self.schema = {field: overrides[field] if field in overrides else typehint_resolver(annotations) for field, annotations in type_hints.items()} ; self.required_fields = [] ; self._keys_set = set() ; self._fast_keys_sync = [] ; self._fast_keys_async = [] ; for key, val in self.schema.items():     self._keys_set.add(key)     is_required = key not in keys_with_defaults     if is_required:         self.required_fields.append(key)     self._fast_keys_sync.append((key, _wrap_sync_validator(val), is_required))     self._fast_keys_async.append((key, _wrap_async_validator(val), is_required)) ; self._unknown_keys_err: ExtraKeysErr = ExtraKeysErr(set(self.schema.keys()))", "NamedTupleValidator.__init__: self.named_tuple_cls = named_tuple_cls ; self.overrides = overrides ; self.fail_on_unknown_keys = fail_on_unknown_keys ; self.coerce = coerce ; if validate_object and validate_object_async:     _raise_cannot_define_validate_object_and_validate_object_async() ; self.validate_object = validate_object ; self.validate_object_async = validate_object_async ; self._disallow_synchronous = bool(validate_object_async) ; overrides = self.overrides or {} ; if sys.version_info >= (3, 9):     type_hints = get_type_hints(self.named_tuple_cls, include_extras=True) else:     type_hints = get_type_hints(self.named_tuple_cls) ; keys_with_defaults: Set[str] = {k for k, v in inspect.signature(self.named_tuple_cls).parameters.items() if v.default != inspect.Parameter.empty} ; self.schema = {field: overrides[field] if field in overrides else typehint_resolver(annotations) for field, annotations in type_hints.items()} ; self.required_fields = [] ; self._keys_set = set() ; self._fast_keys_sync = [] ; self._fast_keys_async = [] ; for key, val in self.schema.items():     self._keys_set.add(key)     is_required = key not in keys_with_defaults     if is_required:         self.required_fields.append(key)     self._fast_keys_sync.append((key, _wrap_sync_validator(val), is_required))     self._fast_keys_async.append((key, _wrap_async_validator(val), is_required)) ; self._unknown_keys_err: ExtraKeysErr = ExtraKeysErr(set(self.schema.keys()))", "TypedDictValidator.__init__: if not _is_typed_dict_cls(td_cls):     raise TypeError('must be a TypedDict subclass') ; self.td_cls = td_cls ; self.overrides = overrides ; self.fail_on_unknown_keys = fail_on_unknown_keys ; self.coerce = coerce ; if validate_object is not None and validate_object_async is not None:     _raise_cannot_define_validate_object_and_validate_object_async() ; self.validate_object = validate_object ; self.validate_object_async = validate_object_async ; self._disallow_synchronous = bool(validate_object_async) ; if sys.version_info >= (3, 9):     self.required_keys: FrozenSet[str] = getattr(td_cls, '__required_keys__', frozenset())     type_hints = get_type_hints(self.td_cls, include_extras=True) else:     self.required_keys = frozenset([k for k in td_cls.__annotations__]) if getattr(td_cls, '__total__', True) else frozenset()     type_hints = get_type_hints(self.td_cls) ; overrides = self.overrides or {} ; self.schema = {field: overrides[field] if field in overrides else typehint_resolver(annotations) for field, annotations in type_hints.items()} ; self._keys_set = set() ; self._fast_keys_sync = [] ; self._fast_keys_async = [] ; for key, val in self.schema.items():     self._keys_set.add(key)     is_required = key in self.required_keys     self._fast_keys_sync.append((key, _wrap_sync_validator(val), is_required))     self._fast_keys_async.append((key, _wrap_async_validator(val), is_required)) ; self._unknown_keys_err: ExtraKeysErr = ExtraKeysErr(set(self.schema.keys()))"] := rfl

/-! ### non-vacuity: a dataclass `C(a: int, b: str = "d")`, validated from an instance and from a dict without `b` -/

example : runDictAnyMethod
      { vid := 1, keys := [.str [97], .str [98]],
        evs := [fun y => some (scalarStep default .sync 2 .int none [] [] [] y), fun y => some (scalarStep default .sync 3 .str none [] [] [] y)],
        reqs := [true, false], oc := none, aoc := none, failUnknown := false,
        cls := ⟨7, 1, false, false⟩, fieldNames := ["a", "b"], defaults := [none, some (.str [100])] }
      Src.dataclassSync (.dict 9 [(.str [97], .int 5)]) =
    some (.valid (.inst 0 0 ⟨7, 1, false, false⟩ ["a", "b"] [.int 5, .str [100]]), []) := by
  rw [src_dataclass_sync default _ _ (clsGate_dict_of_no_coercer _ _ rfl) (by intro c v h; cases h)]; rfl

end Koda
