/-
  C04 — what the five record-shaped methods (`DictValidatorAny`, `RecordValidator`, `TypedDictValidator`,
  `DataclassValidator`, `NamedTupleValidator`) have in common, as written in /repo's current source.

  They are one text in one language (`KodaModel/PyDictAny.lean`) up to a few parameters: guard, gate, scan for undeclared
  keys, two initialisations, the loop over the declared keys, the whole-object checks.  Each stage is treated here once,
  with what differs as a parameter, against the stage of the model's `recordStep` it implements.
-/
import KodaModel.Generated.DictAnySrc
import KodaModel.Lemmas.SrcLoops

namespace Koda

-- realises the equations of the interpreter once for this file; each proof that unfolds it would otherwise do so for itself
attribute [local simp] DExp.eval DStmt.exec

def outD : Except (DErr × List Ev) DFlow → Option (Out × List Ev)
  | .error (.exn e, t) => some (.raised e, t)
  | .error (_, _) => none
  | .ok (.returned (.pair (.bool true) (.dictPayload kvs)) st) => some (.valid (.dict 0 kvs), st.tr)
  | .ok (.returned (.pair (.bool true) (.built v)) st) => some (.valid v, st.tr)
  | .ok (.returned (.pair (.bool false) (.invalid e)) st) => some (.invalid e, st.tr)
  | .ok _ => none

abbrev DRes := Except (DErr × List Ev) DFlow

/-- the entries filed under `errs`: key and the `Invalid` stored for it -/
abbrev Entries := List (PyVal × Inv)

/-- the declared keys gone through, each with its payload slot (`none`: absent, or invalid) -/
abbrev Slots := List (PyVal × Option PyVal)

abbrev LInv := DSt → Slots → Entries → Prop

theorem runDictAnyMethod_eq (cfg : DictAnyCfg) (body : List DStmt) (x : PyVal) :
    runDictAnyMethod cfg body x = outD (DStmt.execL cfg x { env := {}, tr := [] } body) := by
  simp only [runDictAnyMethod, outD]
  rfl

variable (cfg : DictAnyCfg) (x : PyVal)

theorem dflow_id (r : DRes) :
    (match r with
     | .error err => .error err
     | .ok (.next st) => .ok (.next st)
     | .ok (.returned d st) => .ok (.returned d st)) = r := by
  cases r with
  | error e => rfl
  | ok f => cases f <;> rfl

theorem dexecL_nil (st : DSt) : DStmt.execL cfg x st [] = .ok (.next st) := rfl

theorem dexecL_cons (st : DSt) (s : DStmt) (rest : List DStmt) :
    DStmt.execL cfg x st (s :: rest) =
      (match s.exec cfg x st with
       | .error err => .error err
       | .ok (.next st) => DStmt.execL cfg x st rest
       | .ok (.returned d st) => .ok (.returned d st)) := rfl

theorem dexecL_single (st : DSt) (s : DStmt) :
    DStmt.execL cfg x st [s] = DStmt.exec cfg x st s := by
  rw [dexecL_cons]
  simp only [dexecL_nil]
  exact dflow_id _

theorem dexec_ite (st : DSt) (c : DExp) (t e : List DStmt) :
    DStmt.exec cfg x st (.ite c t e) =
      (match c.eval cfg x st with
       | .error err => .error err
       | .ok (d, st) =>
         match dtruthy d with
         | none => .error (.stuck "truth value", st.tr)
         | some true => DStmt.execL cfg x st t
         | some false => DStmt.execL cfg x st e) := rfl

theorem dexec_assign (st : DSt) (v : DVar) (e : DExp) :
    DStmt.exec cfg x st (.assign v e) =
      (match e.eval cfg x st with
       | .error err => .error err
       | .ok (d, st) => .ok (.next { st with env := st.env.set v d })) := rfl

theorem dexec_assign2 (st : DSt) (v w : DVar) (e : DExp) :
    DStmt.exec cfg x st (.assign2 v w e) =
      (match e.eval cfg x st with
       | .error err => .error err
       | .ok (.pair a b, st) => .ok (.next { st with env := (st.env.set v a).set w b })
       | .ok (_, st) => .error (.stuck "unpacking", st.tr)) := rfl

theorem dexec_ret (st : DSt) (e : DExp) :
    DStmt.exec cfg x st (.ret e) =
      (match e.eval cfg x st with
       | .error err => .error err
       | .ok (d, st) => .ok (.returned d st)) := rfl

theorem dexecL_append (l1 l2 : List DStmt) : ∀ (st : DSt),
    DStmt.execL cfg x st (l1 ++ l2) =
      (match DStmt.execL cfg x st l1 with
       | .error err => .error err
       | .ok (.next st) => DStmt.execL cfg x st l2
       | .ok (.returned d st) => .ok (.returned d st)) := by
  induction l1 with
  | nil => intro st; rw [dexecL_nil]; rfl
  | cons s l1 ih =>
    intro st
    rw [List.cons_append, dexecL_cons, dexecL_cons]
    cases s.exec cfg x st with
    | error e => rfl
    | ok f => cases f with
      | next st' => exact ih st'
      | returned d st' => rfl

theorem dexecL_ite_cons (st : DSt) (c : DExp) (t e rest : List DStmt) :
    DStmt.execL cfg x st (.ite c t e :: rest) =
      (match c.eval cfg x st with
       | .error err => .error err
       | .ok (d, st) =>
         match dtruthy d with
         | none => .error (.stuck "truth value", st.tr)
         | some true => DStmt.execL cfg x st (t ++ rest)
         | some false => DStmt.execL cfg x st (e ++ rest)) := by
  rw [dexecL_cons, dexec_ite]
  cases c.eval cfg x st with
  | error err => rfl
  | ok p =>
    obtain ⟨d, st'⟩ := p
    simp only
    cases dtruthy d with
    | none => rfl
    | some b => cases b <;> exact (dexecL_append cfg x _ rest st').symm

theorem DEnv.get_set_self (e : DEnv) (v : DVar) (d : AV) : (e.set v d).get v = d := by
  cases v <;> rfl

theorem dexecL_assign_cons (st st' : DSt) (v : DVar) (e : DExp) (rest : List DStmt) (d : AV)
    (h : e.eval cfg x st = .ok (d, st')) :
    DStmt.execL cfg x st (.assign v e :: rest) = DStmt.execL cfg x { st' with env := st'.env.set v d } rest := by
  rw [dexecL_cons, dexec_assign, h]

theorem dexecL_retPair (st st' : DSt) (b : Bool) (e : DExp) (rest : List DStmt) (d : AV)
    (h : e.eval cfg x st = .ok (d, st')) :
    DStmt.execL cfg x st (.ret (.pair (.bool b) e) :: rest) = .ok (.returned (.pair (.bool b) d) st') := by
  have hp : (DExp.pair (.bool b) e).eval cfg x st = .ok (.pair (.bool b) d, st') := by
    simp only [DExp.eval, h]
  rw [dexecL_cons, dexec_ret, hp]

/-- `.await e` is `e`: no proof below distinguishes the two methods' bodies -/
theorem deval_await_ite (st : DSt) (aw : Bool) (c : DExp) :
    (if aw then DExp.await c else c).eval cfg x st = c.eval cfg x st := by
  cases aw <;> rfl

/-- `success_dict[key_] = new_val` -/
theorem dexec_fileDict (st : DSt) (d : DVar) (kE vE : DExp) (k w : PyVal)
    (sd : List (PyVal × PyVal)) (hk : kE.eval cfg x st = .ok (.py k, st)) (hv : vE.eval cfg x st = .ok (.py w, st))
    (hd : st.env.get d = .dictPayload sd) :
    DStmt.exec cfg x st (.setItem d kE vE) = .ok (.next { st with env := st.env.set d (.dictPayload (sd ++ [(k, w)])) }) := by
  simp only [DStmt.exec, hk, hv, hd]

/-- `args.append(new_val)` -/
theorem dexec_appendList (st : DSt) (l : DVar) (e : DExp) (w : PyVal) (ws : List PyVal)
    (hv : e.eval cfg x st = .ok (.py w, st)) (hl : st.env.get l = .payloadList ws) :
    DStmt.exec cfg x st (.append l e) = .ok (.next { st with env := st.env.set l (.payloadList (ws ++ [w])) }) := by
  simp only [DStmt.exec, hv, hl]

/-- what `errs` holds once the entries `es` have been filed: `{}` until the first -/
def errsAV (es : Entries) : AV := if es.isEmpty then .dictPayload [] else .keyErrs es

theorem dtruthy_errsAV (es : Entries) : dtruthy (errsAV es) = some (!es.isEmpty) := by
  cases es <;> rfl

theorem errsAV_append (es : Entries) (p : PyVal × Inv) : errsAV (es ++ [p]) = .keyErrs (es ++ [p]) := by
  cases es <;> rfl

/-- `errs[key_] = <Invalid>` -/
theorem dexec_fileErr (st : DSt) (kE vE : DExp) (k : PyVal) (e : Inv) (es : Entries)
    (hk : kE.eval cfg x st = .ok (.py k, st)) (hv : vE.eval cfg x st = .ok (.invalid e, st)) (he : st.env.errs = errsAV es) :
    DStmt.exec cfg x st (.setItem .errs kE vE) = .ok (.next { st with env := st.env.set .errs (.keyErrs (es ++ [(k, e)])) }) := by
  have hg : st.env.get .errs = errsAV es := he
  simp only [DStmt.exec, hk, hv, hg]
  cases es <;> rfl

theorem dexecL_unlessErrs (st : DSt) (es : Entries) (body : List DStmt)
    (he : st.env.errs = errsAV es) :
    DStmt.execL cfg x st [.ite (.not (.var .errs)) body []] =
      if es.isEmpty then DStmt.execL cfg x st body else .ok (.next st) := by
  have hg : st.env.get .errs = errsAV es := he
  have hne : (DExp.not (.var .errs)).eval cfg x st = .ok (.bool es.isEmpty, st) := by
    simp only [DExp.eval, hg, dtruthy_errsAV, Bool.not_not]
  rw [dexecL_single, dexec_ite, hne]
  cases es.isEmpty <;> rfl

/-- what the model's `recLoop` does with one declared key -/
inductive KeyStep
  | diverge
  | raised (e : Exn) (t : List Ev)
    | cont (g : Option PyVal) (new : Entries) (t : List Ev)

def keyStep (vid : Nat) (y : PyVal) (data : List (PyVal × PyVal)) (ev : Ev1) (k : PyVal) (req : Bool) : KeyStep :=
  match dictGet data k with
  | none => .cont none (if req then [(k, .mk .missingKey y vid [])] else []) []
  | some xv =>
    match ev xv with
    | none => .diverge
    | some (.raised e, t) => .raised e t
    | some (.valid w, t) => .cont (some w) [] t
    | some (.invalid e, t) => .cont none [(k, e)] t

theorem recLoop_cons (vid : Nat) (y : PyVal) (data : List (PyVal × PyVal)) (ev : Ev1) (evs : List Ev1) (k : PyVal)
    (ks : List PyVal) (req : Bool) (reqs : List Bool) :
    recLoop vid y data (ev :: evs) (k :: ks) (req :: reqs) =
      (match keyStep vid y data ev k req with
       | .diverge => none
       | .raised e t => some ⟨[], [], [], t, some e⟩
       | .cont g new t =>
         (recLoop vid y data evs ks reqs).map fun r =>
           { r with got := g :: r.got, ks := new.map Prod.fst ++ r.ks, errs := new.map Prod.snd ++ r.errs, t := t ++ r.t }) := by
  rw [recLoop, keyStep]
  cases dictGet data k with
  | none => cases recLoop vid y data evs ks reqs <;> cases req <;> rfl
  | some xv =>
    simp only
    cases ev xv with
    | none => rfl
    | some p =>
      obtain ⟨o, t⟩ := p
      cases o with
      | raised e => rfl
      | valid w => cases recLoop vid y data evs ks reqs <;> rfl
      | invalid e => cases recLoop vid y data evs ks reqs <;> rfl

/-- the three lists run in step: when one of them ends, so does the loop -/
theorem recLoop_stop (vid : Nat) (y : PyVal) (data : List (PyVal × PyVal)) (evs : List Ev1) (ks : List PyVal)
    (reqs : List Bool) (h : ks.zip (evs.zip reqs) = []) : recLoop vid y data evs ks reqs = some ⟨[], [], [], [], none⟩ := by
  cases evs with
  | nil => rfl
  | cons ev evs =>
    cases ks with
    | nil => rfl
    | cons k ks =>
      cases reqs with
      | nil => rfl
      | cons req reqs => simp at h

/-- the state in which a round of the loop runs: `key_, validator, key_required` bound -/
def DSt.bind3 (st : DSt) (k : PyVal) (ev : Ev1) (req : Bool) : DSt :=
  { st with env := ((st.env.set .keyU (.py k)).set .validator (.fieldV ev)).set .keyRequired (.bool req) }

theorem dforFold3_cons (body : DSt → DRes) (k : PyVal) (ev : Ev1) (req : Bool)
    (rest : List (PyVal × Ev1 × Bool)) (st : DSt) :
    dforFold3 body .keyU .validator .keyRequired ((k, ev, req) :: rest) st =
      (match body (st.bind3 k ev req) with
       | .ok (.next st') => dforFold3 body .keyU .validator .keyRequired rest st'
       | other => other) := by
  rfl

def StepSim (I : LInv) (st : DSt)
    (kg : Slots) (es : Entries) (k : PyVal)
    (out : DRes) : KeyStep → Prop
  | .diverge => ∃ t, out = .error (.diverge, t)
  | .raised e t => out = .error (.exn e, st.tr ++ t)
  | .cont g new t => ∃ st1, out = .ok (.next st1) ∧ st1.tr = st.tr ++ t ∧ I st1 (kg ++ [(k, g)]) (es ++ new)

def LoopSim (I : LInv) (st : DSt)
    (kg : Slots) (es : Entries) (ks : List PyVal)
    (out : DRes) : Option RecR → Prop
  | none => ∃ t, out = .error (.diverge, t)
  | some r =>
    match r.r with
    | some e => out = .error (.exn e, st.tr ++ r.t)
    | none => ∃ st1 es', out = .ok (.next st1) ∧ st1.tr = st.tr ++ r.t ∧ r.ks = es'.map Prod.fst ∧
        r.errs = es'.map Prod.snd ∧ (ks.zip r.got).map Prod.snd = r.got ∧ I st1 (kg ++ ks.zip r.got) (es ++ es')

def StepOK (vid : Nat) (y : PyVal) (data : List (PyVal × PyVal)) (I : LInv) (body : DSt → DRes) : Prop :=
  ∀ (st : DSt) (kg : Slots) (es : Entries) (k : PyVal) (ev : Ev1) (req : Bool),
    I st kg es → StepSim I st kg es k (body (st.bind3 k ev req)) (keyStep vid y data ev k req)

def LoopOK (vid : Nat) (y : PyVal) (data : List (PyVal × PyVal)) (I : LInv) (body : DSt → DRes) : Prop :=
  ∀ (evs : List Ev1) (ks : List PyVal) (reqs : List Bool) (st : DSt) (kg : Slots) (es : Entries), I st kg es →
    LoopSim I st kg es ks (dforFold3 body .keyU .validator .keyRequired (ks.zip (evs.zip reqs)) st)
      (recLoop vid y data evs ks reqs)

theorem dforFold3_recLoop (vid : Nat) (y : PyVal) (data : List (PyVal × PyVal)) (body : DSt → DRes) (I : LInv)
    (hb : StepOK vid y data I body) : LoopOK vid y data I body := by
  have stop : ∀ evs ks reqs st kg es, I st kg es → ks.zip (evs.zip reqs) = [] →
      LoopSim I st kg es ks (dforFold3 body .keyU .validator .keyRequired (ks.zip (evs.zip reqs)) st)
        (recLoop vid y data evs ks reqs) := by
    intro evs ks reqs st kg es hinv h0
    rw [recLoop_stop vid y data evs ks reqs h0, h0]
    exact ⟨st, [], rfl, (List.append_nil _).symm, rfl, rfl, by simp, by simpa using hinv⟩
  intro evs
  induction evs with
  | nil => intro ks reqs st kg es hinv; exact stop [] ks reqs st kg es hinv (by simp)
  | cons ev evs ih =>
    intro ks reqs st kg es hinv
    cases ks with
    | nil => exact stop (ev :: evs) [] reqs st kg es hinv rfl
    | cons k ks =>
      cases reqs with
      | nil => exact stop (ev :: evs) (k :: ks) [] st kg es hinv (by simp)
      | cons req reqs =>
        have hk := hb st kg es k ev req hinv
        rw [recLoop_cons, List.zip_cons_cons, List.zip_cons_cons, dforFold3_cons]
        cases hs : keyStep vid y data ev k req with
        | diverge =>
          rw [hs] at hk
          obtain ⟨t, ht⟩ := hk
          exact ⟨t, by rw [ht]⟩
        | raised e t =>
          rw [hs] at hk
          show _ = _
          rw [hk]
        | cont g new t =>
          rw [hs] at hk
          obtain ⟨st1, h1, h2, h3⟩ := hk
          rw [h1]
          have hrest := ih ks reqs st1 _ _ h3
          cases hl : recLoop vid y data evs ks reqs with
          | none =>
            rw [hl] at hrest
            exact hrest
          | some r =>
            rw [hl] at hrest
            simp only [Option.map_some, LoopSim] at hrest ⊢
            cases hr : r.r with
            | some e =>
              rw [hr] at hrest
              simp only at hrest ⊢
              rw [hrest, h2, List.append_assoc]
            | none =>
              rw [hr] at hrest
              obtain ⟨st2, es', j1, j2, j3, j4, j5, j6⟩ := hrest
              refine ⟨st2, new ++ es', j1, by rw [j2, h2, List.append_assoc], by rw [j3, List.map_append],
                by rw [j4, List.map_append], congrArg (List.cons g) j5, ?_⟩
              simpa [List.append_assoc] using j6

/-- the loop body of the five methods; they differ in `src` (`data` / `coerced_val`), the missing-key error, what an absent
    optional key does (`skip`) and how a payload is stored (`file`) -/
def kLoopBody (src miss : DExp) (skip file : List DStmt) (aw : Bool) : List DStmt :=
  [.ite (.notIn (.var .keyU) src)
     [.ite (.var .keyRequired) [.setItem .errs (.var .keyU) (.mkInvalid miss src .self)] skip]
     [.assign2 .success .newVal
        (if aw then .await (.call1 (.var .validator) (.subscript src (.var .keyU)))
         else .call1 (.var .validator) (.subscript src (.var .keyU))),
      .ite (.not (.var .success)) [.setItem .errs (.var .keyU) (.var .newVal)]
        [.ite (.not (.var .errs)) file []]]]

/-- the state after `success, new_val = validator(…)` -/
def DSt.called (st : DSt) (ok : Bool) (d : AV) (t : List Ev) : DSt :=
  ⟨(st.env.set .success (.bool ok)).set .newVal d, st.tr ++ t⟩

theorem kLoopBody_exec (src miss : DExp) (skip file : List DStmt) (aw : Bool) (st : DSt)
    (k : PyVal) (ev : Ev1) (req : Bool) (y : PyVal) (data : List (PyVal × PyVal)) (es : Entries)
    (hk : st.env.keyU = .py k) (hv : st.env.validator = .fieldV ev) (hr : st.env.keyRequired = .bool req)
    (hs : src.eval cfg x st = .ok (.py y, st)) (hy : dictItems y = some data)
    (hm : miss.eval cfg x st = .ok (.errK .missingKey, st)) (he : st.env.errs = errsAV es) :
    DStmt.execL cfg x st (kLoopBody src miss skip file aw) =
      (match dictGet data k with
       | none =>
         if req then .ok (.next { st with env := st.env.set .errs (.keyErrs (es ++ [(k, .mk .missingKey y cfg.vid [])])) })
         else DStmt.execL cfg x st skip
       | some xv =>
         match ev xv with
         | none => .error (.diverge, st.tr)
         | some (.raised e, t) => .error (.exn e, st.tr ++ t)
         | some (.valid w, t) =>
           if es.isEmpty then DStmt.execL cfg x (st.called true (.py w) t) file else .ok (.next (st.called true (.py w) t))
         | some (.invalid e, t) =>
           .ok (.next { st.called false (.invalid e) t with
             env := (st.called false (.invalid e) t).env.set .errs (.keyErrs (es ++ [(k, e)])) })) := by
  have hkey : (DExp.var .keyU).eval cfg x st = .ok (.py k, st) := by rw [← hk]; rfl
  have hin : (DExp.notIn (.var .keyU) src).eval cfg x st = .ok (.bool (dictGet data k).isNone, st) := by
    simp only [DExp.eval, DEnv.get, hk, hs, hy]
  rw [kLoopBody, dexecL_single, dexec_ite, hin]
  cases hg : dictGet data k with
  | none =>
    have hreq : (DExp.var .keyRequired).eval cfg x st = .ok (.bool req, st) := by rw [← hr]; rfl
    simp only [Option.isNone_none, dtruthy]
    rw [dexecL_single, dexec_ite, hreq]
    cases req with
    | false => rfl
    | true =>
      have hinv : (DExp.mkInvalid miss src .self).eval cfg x st = .ok (.invalid (.mk .missingKey y cfg.vid []), st) := by
        simp only [DExp.eval, hm, hs]
      simp only [dtruthy, if_true]
      rw [dexecL_single, dexec_fileErr cfg x st _ _ k _ es hkey hinv he]
  | some xv =>
    have hcall : (if aw then DExp.await (.call1 (.var .validator) (.subscript src (.var .keyU)))
          else .call1 (.var .validator) (.subscript src (.var .keyU))).eval cfg x st =
        (match ev xv with
         | none => .error (.diverge, st.tr)
         | some (.raised e, t) => .error (.exn e, st.tr ++ t)
         | some (.valid w, t) => .ok (.pair (.bool true) (.py w), { st with tr := st.tr ++ t })
         | some (.invalid e, t) => .ok (.pair (.bool false) (.invalid e), { st with tr := st.tr ++ t })) := by
      rw [deval_await_ite]
      simp only [DExp.eval, DEnv.get, hv, hk, hs, hy, hg]
      rfl
    have hnot : ∀ (ok : Bool) (d : AV) (t : List Ev), (DExp.not (.var .success)).eval cfg x (st.called ok d t) =
        .ok (.bool (!ok), st.called ok d t) := fun _ _ _ => rfl
    simp only [Option.isNone_some, dtruthy]
    rw [dexecL_cons, dexec_assign2, hcall]
    cases hc : ev xv with
    | none => rfl
    | some p =>
      obtain ⟨o, t⟩ := p
      cases o with
      | raised e => rfl
      | valid w =>
        show DStmt.execL cfg x (st.called true (.py w) t) _ = _
        rw [dexecL_single, dexec_ite, hnot]
        exact dexecL_unlessErrs cfg x _ es file he
      | invalid e =>
        show DStmt.execL cfg x (st.called false (.invalid e) t) _ = _
        rw [dexecL_single, dexec_ite, hnot]
        show DStmt.execL cfg x (st.called false (.invalid e) t) [_] = _
        rw [dexecL_single]
        exact dexec_fileErr cfg x _ _ _ k e es (by rw [← hk]; rfl) rfl he

/-- `src` denotes `y` in `st` and in every state that holds the same `coerced_val`: `data`, or `coerced_val` itself -/
def Denotes (src : DExp) (y : PyVal) (st : DSt) : Prop :=
  ∀ st' : DSt, st'.env.coercedVal = st.env.coercedVal → src.eval cfg x st' = .ok (.py y, st')

theorem denotes_data (st : DSt) : Denotes cfg x .data x st := fun _ _ => rfl

theorem denotes_data_eq {cfg : DictAnyCfg} {x y : PyVal} {st : DSt} (h : Denotes cfg x .data y st) : y = x := by
  exact (AV.py.inj (Prod.mk.inj (Except.ok.inj (h st rfl))).1).symm

theorem denotes_coercedVal (x y : PyVal) (st : DSt) (h : st.env.coercedVal = .py y) :
    Denotes cfg x (.var .coercedVal) y st := by
  intro st' h'
  rw [← h, ← h']
  rfl

theorem Denotes.frame {cfg : DictAnyCfg} {x : PyVal} {src : DExp} {y : PyVal} {st st' : DSt} (h : Denotes cfg x src y st)
    (e : st'.env.coercedVal = st.env.coercedVal) : Denotes cfg x src y st' :=
  fun st'' e' => h st'' (e'.trans e)

/-- the payload variable's value `v` is a payload; as long as no entry has been filed it is `a` (after the first error
    the methods no longer keep it up to date, and never look at it again) -/
def Pay {α : Type} (v : AV) (enc : α → AV) (a : α) (es : Entries) : Prop :=
  ∃ a', v = enc a' ∧ (es = [] → a' = a)

theorem Pay.exact {α : Type} {v : AV} {enc : α → AV} {a : α} (es : Entries) (h : v = enc a) : Pay v enc a es :=
  ⟨a, h, fun _ => rfl⟩

theorem Pay.filed {α : Type} {v : AV} {enc : α → AV} {a b : α} {es : Entries} (h : Pay v enc a es)
    (p : PyVal × Inv) : Pay v enc b (es ++ [p]) := by
  obtain ⟨a', h1, _⟩ := h
  exact ⟨a', h1, fun h0 => absurd h0 (by simp)⟩

def pairsOf (kg : Slots) : List (PyVal × PyVal) :=
  kg.filterMap (fun kg => kg.2.map (fun w => (kg.1, w)))

theorem pairsOf_snoc (kg : Slots) (k : PyVal) (g : Option PyVal) :
    pairsOf (kg ++ [(k, g)]) = pairsOf kg ++ (match g with | some w => [(k, w)] | none => []) := by
  cases g <;> simp [pairsOf]

/-- the loop's invariant where payloads go to `success_dict` (all but `RecordValidator`) -/
structure SInv (src : DExp) (y : PyVal) (sd : List (PyVal × PyVal)) (st : DSt)
    (kg : Slots) (es : Entries) : Prop where
  rd : Denotes cfg x src y st
  er : st.env.errs = errsAV es
  sd : Pay st.env.successDict .dictPayload (sd ++ pairsOf kg) es

def sLoopBody (src : DExp) (aw : Bool) : List DStmt :=
  kLoopBody src .missingKeyErr [] [.setItem .successDict (.var .keyU) (.var .newVal)] aw

theorem sLoopBody_step (src : DExp) (aw : Bool) (y : PyVal) (data : List (PyVal × PyVal))
    (hy : dictItems y = some data) (sd : List (PyVal × PyVal)) :
    StepOK cfg.vid y data (SInv cfg x src y sd) (fun st => DStmt.execL cfg x st (sLoopBody src aw)) := by
  intro st kg es k ev req hinv
  show StepSim _ st kg es k (DStmt.execL cfg x (st.bind3 k ev req) (sLoopBody src aw)) _
  obtain ⟨hrd, her, sd', hsd, hex⟩ := hinv
  rw [sLoopBody, kLoopBody_exec cfg x src .missingKeyErr [] _ aw (st.bind3 k ev req) k ev req y data es rfl rfl rfl
    (hrd _ rfl) hy rfl her, keyStep]
  cases dictGet data k with
  | none =>
    cases req with
    | true => exact ⟨_, rfl, (List.append_nil _).symm, hrd.frame rfl, (errsAV_append es _).symm, Pay.filed ⟨sd', hsd, hex⟩ _⟩
    | false =>
      refine ⟨_, rfl, (List.append_nil _).symm, hrd.frame rfl, ?_, sd', hsd, ?_⟩
      · exact her.trans (congrArg errsAV (List.append_nil es).symm)
      · intro h
        rw [pairsOf_snoc, List.append_nil]
        exact hex ((List.append_nil es).symm.trans h)
  | some xv =>
    simp only
    cases ev xv with
    | none => exact ⟨_, rfl⟩
    | some p =>
      obtain ⟨o, t⟩ := p
      cases o with
      | raised e => rfl
      | invalid e => exact ⟨_, rfl, rfl, hrd.frame rfl, (errsAV_append es _).symm, Pay.filed ⟨sd', hsd, hex⟩ _⟩
      | valid w =>
        simp only [StepSim, List.append_nil]
        cases es with
        | cons a l => exact ⟨_, rfl, rfl, hrd.frame rfl, her, sd', hsd, fun h => absurd h (by simp)⟩
        | nil =>
          rw [List.isEmpty_nil, if_pos rfl, dexecL_single]
          exact ⟨_, dexec_fileDict cfg x _ .successDict _ _ k w sd' rfl rfl hsd, rfl, hrd.frame rfl, her,
            Pay.exact _ (by rw [pairsOf_snoc, ← List.append_assoc, ← hex rfl]; rfl)⟩

theorem dexecL_ifErrs (st : DSt) (es : Entries) (t e rest : List DStmt)
    (he : st.env.errs = errsAV es) :
    DStmt.execL cfg x st (.ite (.var .errs) t e :: rest) =
      if es.isEmpty then DStmt.execL cfg x st (e ++ rest) else DStmt.execL cfg x st (t ++ rest) := by
  have hg : st.env.get .errs = errsAV es := he
  have hv : (DExp.var .errs).eval cfg x st = .ok (errsAV es, st) := by rw [← hg]; rfl
  rw [dexecL_ite_cons, hv]
  simp only [dtruthy_errsAV]
  cases es.isEmpty <;> rfl

/-- `return False, Invalid(KeyErrs(errs), <src>, self)` -/
def retKeys (src : DExp) : List DStmt := [.ret (.pair (.bool false) (.mkInvalid (.mkKeyErrs (.var .errs)) src .self))]

theorem outD_keysInvalid (st : DSt) (src : DExp) (y : PyVal) (es : Entries)
    (ok rest : List DStmt) (he : st.env.errs = errsAV es) (hne : es ≠ []) (hs : src.eval cfg x st = .ok (.py y, st)) :
    outD (DStmt.execL cfg x st (.ite (.var .errs) (retKeys src) ok :: rest)) =
      some (.invalid (.mk (.keys (es.map Prod.fst)) y cfg.vid (es.map Prod.snd)), st.tr) := by
  have hg : st.env.get .errs = .keyErrs es := by
    cases es with
    | nil => exact absurd rfl hne
    | cons a l => exact he
  have hemp : es.isEmpty = false := by
    cases es with
    | nil => exact absurd rfl hne
    | cons a l => rfl
  have hi : (DExp.mkInvalid (.mkKeyErrs (.var .errs)) src .self).eval cfg x st =
      .ok (.invalid (.mk (.keys (es.map Prod.fst)) y cfg.vid (es.map Prod.snd)), st) := by
    simp only [DExp.eval, hg, hs]
  rw [dexecL_ifErrs cfg x st es _ _ _ he, hemp, retKeys, List.singleton_append, dexecL_retPair cfg x st st _ _ _ _ hi]
  rfl

/-- the Python object a payload stands for when it is handed to a whole-object check or returned -/
inductive PayObj : AV → PyVal → Prop
  | dict (kvs : List (PyVal × PyVal)) : PayObj (.dictPayload kvs) (.dict 0 kvs)
  | built (v : PyVal) : PayObj (.built v) v

/-! `validate_object` and (`a`) the `await`ed `validate_object_async` differ in four names -/

def chkAttr (a : Bool) : DSelf := if a then .validateObjectAsync else .validateObject
def chkOf (a : Bool) (cfg : DictAnyCfg) : Option ObjCheck := if a then cfg.aoc else cfg.oc
def chkAV (a : Bool) (c : ObjCheck) : AV := if a then .aobjCheck c else .objCheck c
def chkEv (a : Bool) (n : Nat) : Ev := if a then .aoc n else .oc n

/-- `self.validate_object and (rv := self.validate_object(ov))` -/
def chk (a : Bool) (rv ov : DVar) : DExp :=
  .and (.selfAttr (chkAttr a))
    (.walrus rv (if a then .await (.call1 (.selfAttr (chkAttr a)) (.var ov)) else .call1 (.selfAttr (chkAttr a)) (.var ov)))

def retC (rv ov : DVar) : List DStmt := [.ret (.pair (.bool false) (.mkInvalid (.var rv) (.var ov) .self))]

def objChk (a : Bool) (cfg : DictAnyCfg) (v : PyVal) : Out × List Ev :=
  match chkOf a cfg with
  | none => (.valid v, [])
  | some c =>
    match c.f v with
    | none => (.valid v, [chkEv a c.id])
    | some e => (.invalid (.mk (.custom e) v cfg.vid []), [chkEv a c.id])

theorem objChk_sync (cfg : DictAnyCfg) (v : PyVal) : objChk false cfg v = runObjCheck cfg.oc cfg.vid v := rfl

theorem objChk_async (cfg : DictAnyCfg) (v : PyVal) : objChk true cfg v = runAObjCheck .async cfg.aoc cfg.vid v := by
  unfold objChk chkOf runAObjCheck
  cases cfg.aoc <;> rfl

theorem deval_callCheck (st : DSt) (f e : DExp) (a : Bool) (c : ObjCheck) (ob : AV) (v : PyVal)
    (hf : f.eval cfg x st = .ok (chkAV a c, st)) (he : e.eval cfg x st = .ok (ob, st)) (hv : PayObj ob v) :
    (DExp.call1 f e).eval cfg x st =
      .ok (match c.f v with
        | none => (.none, { st with tr := st.tr ++ [chkEv a c.id] })
        | some e => (.customErr e, { st with tr := st.tr ++ [chkEv a c.id] })) := by
  simp only [DExp.eval, hf, he]
  cases hv with
  | dict kvs =>
    cases a <;> simp only [chkAV, chkEv, Bool.false_eq_true, if_false, if_true] <;> cases c.f (.dict 0 kvs) <;> rfl
  | built v =>
    cases a <;> simp only [chkAV, chkEv, Bool.false_eq_true, if_false, if_true] <;> cases c.f v <;> rfl

theorem deval_chk (a : Bool) (rv ov : DVar) (st : DSt) (ob : AV) (v : PyVal)
    (hov : st.env.get ov = ob) (hv : PayObj ob v) :
    (chk a rv ov).eval cfg x st =
      .ok (match chkOf a cfg with
        | none => (.none, st)
        | some c =>
          match c.f v with
          | none => (.none, ⟨st.env.set rv .none, st.tr ++ [chkEv a c.id]⟩)
          | some e => (.customErr e, ⟨st.env.set rv (.customErr e), st.tr ++ [chkEv a c.id]⟩)) := by
  have hattr : (DExp.selfAttr (chkAttr a)).eval cfg x st =
      .ok ((match chkOf a cfg with | some c => chkAV a c | none => .none), st) := by cases a <;> rfl
  have hvar : (DExp.var ov).eval cfg x st = .ok (ob, st) := by rw [← hov]; rfl
  rw [chk]
  unfold DExp.eval
  rw [hattr]
  cases hc : chkOf a cfg with
  | none => rfl
  | some c =>
    have htr : dtruthy (chkAV a c) = some true := by cases a <;> rfl
    have hcall := deval_callCheck cfg x st _ _ a c ob v (hattr.trans (by rw [hc])) hvar hv
    simp only [htr]
    unfold DExp.eval
    rw [deval_await_ite, hcall]
    cases c.f v <;> rfl

theorem dexecL_retC (rv ov : DVar) (rest : List DStmt) (st : DSt) (e : Nat) (ob : AV)
    (v : PyVal) (hrv : st.env.get rv = .customErr e) (hov : st.env.get ov = ob) (hv : PayObj ob v) :
    DStmt.execL cfg x st (retC rv ov ++ rest) =
      .ok (.returned (.pair (.bool false) (.invalid (.mk (.custom e) v cfg.vid []))) st) := by
  have hi : (DExp.mkInvalid (.var rv) (.var ov) .self).eval cfg x st = .ok (.invalid (.mk (.custom e) v cfg.vid []), st) := by
    simp only [DExp.eval, hrv, hov]
    cases hv <;> rfl
  rw [retC, List.singleton_append, dexecL_retPair cfg x st st _ _ _ _ hi]

theorem outD_chk (a : Bool) (rv ov : DVar) (els rest : List DStmt) (st : DSt) (ob : AV)
    (v : PyVal) (hfr : ∀ (e : DEnv) (d : AV), (e.set rv d).get ov = e.get ov)
    (hov : st.env.get ov = ob) (hv : PayObj ob v) :
    ∃ env', env'.get ov = ob ∧
      outD (DStmt.execL cfg x st (.ite (chk a rv ov) (retC rv ov) els :: rest)) =
        (match (objChk a cfg v).1 with
         | .valid _ => outD (DStmt.execL cfg x ⟨env', st.tr ++ (objChk a cfg v).2⟩ (els ++ rest))
         | other => some (other, st.tr ++ (objChk a cfg v).2)) := by
  rw [dexecL_ite_cons, deval_chk cfg x a rv ov st ob v hov hv, objChk]
  cases chkOf a cfg with
  | none => exact ⟨st.env, hov, by simp only [dtruthy, List.append_nil]⟩
  | some c =>
    simp only
    cases c.f v with
    | none => exact ⟨st.env.set rv .none, (hfr _ _).trans hov, rfl⟩
    | some e =>
      refine ⟨st.env, hov, ?_⟩
      simp only [dtruthy]
      rw [dexecL_retC cfg x rv ov rest _ e ob v (DEnv.get_set_self _ _ _) ((hfr _ _).trans hov) hv]
      rfl

theorem objChk_valid (a : Bool) (cfg : DictAnyCfg) (v w : PyVal) (h : (objChk a cfg v).1 = .valid w) : w = v := by
  unfold objChk at h
  split at h
  · exact (Out.valid.inj h).symm
  · split at h
    · exact (Out.valid.inj h).symm
    · cases h

def retOk (ov : DVar) : DStmt := .ret (.pair (.bool true) (.var ov))

/-- the asynchronous method's second check -/
def aocPart (m : Mode) (rv ov : DVar) : List DStmt :=
  match m with
  | .sync => []
  | .async => [.ite (chk true rv ov) (retC rv ov) []]

def finishChecks (m : Mode) (cfg : DictAnyCfg) (v : PyVal) (t : List Ev) : Out × List Ev :=
  match (runObjCheck cfg.oc cfg.vid v).1 with
  | .valid _ => ((runAObjCheck m cfg.aoc cfg.vid v).1, t ++ (runObjCheck cfg.oc cfg.vid v).2 ++ (runAObjCheck m cfg.aoc cfg.vid v).2)
  | other => (other, t ++ (runObjCheck cfg.oc cfg.vid v).2)

/-- `if <check>: return …` (twice in the asynchronous method), then `return True, <ov>` -/
theorem checks_exec (m : Mode) (r1 r2 ov : DVar) (st : DSt) (ob : AV) (v : PyVal)
    (hfr1 : ∀ (e : DEnv) (d : AV), (e.set r1 d).get ov = e.get ov)
    (hfr2 : ∀ (e : DEnv) (d : AV), (e.set r2 d).get ov = e.get ov)
    (hov : st.env.get ov = ob) (hv : PayObj ob v) :
    outD (DStmt.execL cfg x st
        [.ite (chk false r1 ov) (retC r1 ov) (aocPart m r2 ov), retOk ov]) =
      some (finishChecks m cfg v st.tr) := by
  have hret : ∀ (env' : DEnv) (t : List Ev), env'.get ov = ob →
      outD (DStmt.execL cfg x ⟨env', t⟩ [retOk ov]) = some (.valid v, t) := by
    intro env' t h
    have hr : (DExp.var ov).eval cfg x ⟨env', t⟩ = .ok (ob, ⟨env', t⟩) := by rw [← h]; rfl
    rw [retOk, dexecL_retPair cfg x _ _ _ _ _ _ hr]
    cases hv <;> rfl
  obtain ⟨env1, h1, e1⟩ := outD_chk cfg x false r1 ov (aocPart m r2 ov) [retOk ov] st ob v hfr1 hov hv
  rw [e1, objChk_sync, finishChecks]
  cases hoc : (runObjCheck cfg.oc cfg.vid v).1 with
  | raised e => rfl
  | invalid i => rfl
  | valid w =>
    cases m with
    | sync =>
      have ha : runAObjCheck .sync cfg.aoc cfg.vid v = (.valid v, []) := rfl
      simp only [aocPart, List.nil_append, ha, List.append_nil]
      exact hret _ _ h1
    | async =>
      obtain ⟨env2, h2, e2⟩ := outD_chk cfg x true r2 ov [] [retOk ov]
        ⟨env1, st.tr ++ (runObjCheck cfg.oc cfg.vid v).2⟩ ob v hfr2 h1 hv
      simp only [aocPart, List.singleton_append]
      rw [e2, objChk_async]
      cases hao : (runAObjCheck .async cfg.aoc cfg.vid v).1 with
      | raised e => rfl
      | invalid i => rfl
      | valid w' =>
        rw [← objChk_async] at hao
        rw [objChk_valid true cfg v w' hao]
        exact hret _ _ h2

/-- what tells the two methods of a validator apart: the list of triples iterated over (`fastOf`), `await` (`awOf`),
    the guard (`guardOf`) -/
def fastOf : Mode → DSelf
  | .sync => .fastKeysSync
  | .async => .fastKeysAsync

def awOf : Mode → Bool
  | .sync => false
  | .async => true

/-- `for key_, validator, key_required in self._fast_keys_<m>: <body>` -/
def kLoop (m : Mode) (body : Bool → List DStmt) : DStmt :=
  .forIn3 .keyU .validator .keyRequired (.selfAttr (fastOf m)) (body (awOf m))

theorem dexec_kLoop (st : DSt) (m : Mode) (body : Bool → List DStmt) :
    DStmt.exec cfg x st (kLoop m body) =
      dforFold3 (fun st => DStmt.execL cfg x st (body (awOf m))) .keyU .validator .keyRequired
        (cfg.keys.zip (cfg.evs.zip cfg.reqs)) st := by
  cases m <;> rfl

def recRest (m : Mode) (rc : RecCfg) (y : PyVal) (data : List (PyVal × PyVal)) (t : List Ev) : Option (Out × List Ev) :=
  match recLoop cfg.vid y data cfg.evs cfg.keys cfg.reqs with
  | none => none
  | some r => some (recFinish m cfg.vid rc y t r)

/-- `ti`: the `into` event of the `record` kind, given by the caller as the list it is for its kind (`[]` / `[.into id]`),
    so that no `if` on the kind is left in its goal -/
theorem recFinish_eq (m : Mode) (cfg : DictAnyCfg) (rc : RecCfg) (hoc : rc.oc = cfg.oc) (haoc : rc.aoc = cfg.aoc)
    (ti : List Ev) (hti : (if rc.kind = .record then [Ev.into rc.intoId] else []) = ti) (y : PyVal) (t : List Ev) (r : RecR) :
    recFinish m cfg.vid rc y t r =
      (match r.r with
       | some e => (.raised e, t ++ r.t)
       | none =>
         if !r.ks.isEmpty then (.invalid (.mk (.keys r.ks) y cfg.vid r.errs), t ++ r.t)
         else finishChecks m cfg (recBuild rc r.got) (t ++ r.t ++ ti)) := by
  rw [recFinish, hoc, haoc, hti]
  rfl

def KeysFin (y : PyVal) (I : LInv) (fin : List DStmt) : Prop :=
  ∀ (st : DSt) (kg : Slots) (es : Entries), es ≠ [] → I st kg es →
    outD (DStmt.execL cfg x st fin) = some (.invalid (.mk (.keys (es.map Prod.fst)) y cfg.vid (es.map Prod.snd)), st.tr)

theorem kTail_exec (m : Mode) (rc : RecCfg) (hoc : rc.oc = cfg.oc) (haoc : rc.aoc = cfg.aoc) (ti : List Ev)
    (hti : (if rc.kind = .record then [Ev.into rc.intoId] else []) = ti) (y : PyVal) (data : List (PyVal × PyVal))
    (body : Bool → List DStmt) (fin : List DStmt) (I : LInv)
    (hb : StepOK cfg.vid y data I (fun st => DStmt.execL cfg x st (body (awOf m))))
    (hkeys : KeysFin cfg x y I fin)
    (hok : ∀ (st : DSt) (got : List (Option PyVal)), (cfg.keys.zip got).map Prod.snd = got → I st (cfg.keys.zip got) [] →
      outD (DStmt.execL cfg x st fin) = some (finishChecks m cfg (recBuild rc got) (st.tr ++ ti)))
    (st : DSt) (h0 : I st [] []) :
    outD (DStmt.execL cfg x st (kLoop m body :: fin)) = recRest cfg m rc y data st.tr := by
  have h := dforFold3_recLoop cfg.vid y data (fun st => DStmt.execL cfg x st (body (awOf m))) I hb cfg.evs cfg.keys
    cfg.reqs st [] [] h0
  rw [dexecL_cons, dexec_kLoop, recRest]
  cases hl : recLoop cfg.vid y data cfg.evs cfg.keys cfg.reqs with
  | none =>
    rw [hl] at h
    obtain ⟨t, ht⟩ := h
    rw [ht]
    rfl
  | some r =>
    rw [hl] at h
    simp only [LoopSim] at h
    simp only [recFinish_eq m cfg rc hoc haoc ti hti]
    cases hr : r.r with
    | some e =>
      rw [hr] at h
      rw [h]
      rfl
    | none =>
      rw [hr] at h
      obtain ⟨st1, es', j1, j2, j3, j4, j5, j6⟩ := h
      rw [j1]
      simp only [List.nil_append] at j6 ⊢
      cases es' with
      | nil => rw [hok st1 r.got j5 j6, j2, j3]; rfl
      | cons a l => rw [hkeys st1 _ _ (List.cons_ne_nil a l) j6, j2, j3, j4]; rfl

def dGuard : DStmt := .ite (.selfAttr .disallowSync) [.expr (.raiseAsyncInSync (.selfAttr .cls))] []

theorem dGuard_exec (st : DSt) (rest : List DStmt) :
    DStmt.execL cfg x st (dGuard :: rest) =
      (if cfg.aoc.isSome then .error (.exn .assertion, st.tr) else DStmt.execL cfg x st rest) := by
  have hattr : (DExp.selfAttr .disallowSync).eval cfg x st = .ok (.bool cfg.aoc.isSome, st) := rfl
  rw [dGuard, dexecL_ite_cons, hattr]
  cases cfg.aoc.isSome <;> rfl

def guardOf : Mode → List DStmt
  | .sync => [dGuard]
  | .async => []

theorem dexecL_retInvalid (st : DSt) (errE valE : DExp) (rest : List DStmt) (k : ErrK) (y : PyVal)
    (he : errE.eval cfg x st = .ok (.errK k, st)) (hv : valE.eval cfg x st = .ok (.py y, st)) :
    DStmt.execL cfg x st (.ret (.pair (.bool false) (.mkInvalid errE valE .self)) :: rest) =
      .ok (.returned (.pair (.bool false) (.invalid (.mk k y cfg.vid []))) st) := by
  have hi : (DExp.mkInvalid errE valE .self).eval cfg x st = .ok (.invalid (.mk k y cfg.vid []), st) := by
    simp only [DExp.eval, he, hv]
  exact dexecL_retPair cfg x st st _ _ _ _ hi

/-- `if key_ not in self._keys_set: return False, Invalid(self._unknown_keys_err, <src>, self)` -/
def kScanBody (src : DExp) : List DStmt :=
  [.ite (.notIn (.var .keyU) (.selfAttr .keysSet))
     [.ret (.pair (.bool false) (.mkInvalid (.selfAttr .unknownKeysErr) src .self))] []]

/-- `if self.fail_on_unknown_keys: for key_ in <src>: …` -/
def kScan (src : DExp) : DStmt := .ite (.selfAttr .failOnUnknownKeys) [.forIn .keyU src (kScanBody src)] []

def ScanSim (src : DExp) (y : PyVal) (ks : List PyVal) (st : DSt) : Prop :=
  (ks.any (fun k => !memL k cfg.keys) = true →
    ∃ st', dforFold (fun st => DStmt.execL cfg x st (kScanBody src)) .keyU ks st =
      .ok (.returned (.pair (.bool false) (.invalid (.mk (.extraKeys cfg.keys) y cfg.vid []))) st') ∧ st'.tr = st.tr) ∧
  (ks.any (fun k => !memL k cfg.keys) = false →
    ∃ st', dforFold (fun st => DStmt.execL cfg x st (kScanBody src)) .keyU ks st = .ok (.next st') ∧ st'.tr = st.tr ∧
      st'.env.coercedVal = st.env.coercedVal)

theorem kforFold_scan (src : DExp) (y : PyVal) :
    ∀ (ks : List PyVal) (st : DSt), Denotes cfg x src y st → ScanSim cfg x src y ks st := by
  intro ks
  unfold ScanSim
  induction ks with
  | nil =>
    intro st _
    exact ⟨fun h => (nomatch h), fun _ => ⟨st, rfl, rfl, rfl⟩⟩
  | cons k ks ih =>
    intro st hrd
    have hin : (DExp.notIn (.var .keyU) (.selfAttr .keysSet)).eval cfg x { st with env := st.env.set .keyU (.py k) } =
        .ok (.bool (!memL k cfg.keys), { st with env := st.env.set .keyU (.py k) }) := rfl
    have hbody : DStmt.execL cfg x { st with env := st.env.set .keyU (.py k) } (kScanBody src) =
        (if memL k cfg.keys then .ok (.next { st with env := st.env.set .keyU (.py k) })
         else .ok (.returned (.pair (.bool false) (.invalid (.mk (.extraKeys cfg.keys) y cfg.vid [])))
                    { st with env := st.env.set .keyU (.py k) })) := by
      rw [kScanBody, dexecL_ite_cons, hin]
      cases memL k cfg.keys with
      | true => rfl
      | false => exact dexecL_retInvalid cfg x _ _ _ _ _ y rfl (hrd _ rfl)
    rw [dforFold, hbody, List.any_cons]
    cases memL k cfg.keys with
    | false => exact ⟨fun _ => ⟨_, rfl, rfl⟩, fun h => (nomatch h)⟩
    | true => exact ih { st with env := st.env.set .keyU (.py k) } (hrd.frame rfl)

def ScanOK (src : DExp) (y : PyVal) (st : DSt) (rest : List DStmt) (kvs : List (PyVal × PyVal)) : Prop :=
  ((cfg.failUnknown && hasUnknownKey cfg.keys kvs) = true →
    outD (DStmt.execL cfg x st (kScan src :: rest)) = some (.invalid (.mk (.extraKeys cfg.keys) y cfg.vid []), st.tr)) ∧
  ((cfg.failUnknown && hasUnknownKey cfg.keys kvs) = false →
    ∃ st', DStmt.execL cfg x st (kScan src :: rest) = DStmt.execL cfg x st' rest ∧ st'.tr = st.tr ∧
      st'.env.coercedVal = st.env.coercedVal)

theorem kScan_exec (src : DExp) (y : PyVal) (st : DSt) (rest : List DStmt) (kvs : List (PyVal × PyVal))
    (hy : dictItems y = some kvs) (hrd : Denotes cfg x src y st) : ScanOK cfg x src y st rest kvs := by
  unfold ScanOK
  have hattr : (DExp.selfAttr .failOnUnknownKeys).eval cfg x st = .ok (.bool cfg.failUnknown, st) := rfl
  rw [kScan, dexecL_ite_cons, hattr]
  cases cfg.failUnknown with
  | false => exact ⟨fun h => (nomatch h), fun _ => ⟨st, rfl, rfl, rfl⟩⟩
  | true =>
    have hfor : DStmt.exec cfg x st (.forIn .keyU src (kScanBody src)) =
        dforFold (fun st => DStmt.execL cfg x st (kScanBody src)) .keyU (kvs.map Prod.fst) st := by
      simp only [DStmt.exec, hrd st rfl, hy]
    have hany : (kvs.map Prod.fst).any (fun k => !memL k cfg.keys) = hasUnknownKey cfg.keys kvs := by
      simp only [hasUnknownKey, List.any_map, Function.comp_def]
    obtain ⟨s1, s2⟩ := kforFold_scan cfg x src y (kvs.map Prod.fst) st hrd
    rw [hany] at s1 s2
    simp only [Bool.true_and, dtruthy, List.singleton_append]
    rw [dexecL_cons, hfor]
    refine ⟨fun h => ?_, fun h => ?_⟩
    · obtain ⟨st', e1, e2⟩ := s1 h
      rw [e1, ← e2]
      rfl
    · obtain ⟨st', e1, e2, e3⟩ := s2 h
      rw [e1]
      exact ⟨st', rfl, e2, e3⟩

/-- the statements `gs` decide as the model's gate `G`; none of these gates raises -/
def GateOK (gs : List DStmt) (src : DExp) (G : Gate) : Prop :=
  ∀ (st : DSt) (rest : List DStmt),
    match G with
    | .exn _ _ => False
    | .rej k t => outD (DStmt.execL cfg x st (gs ++ rest)) = some (.invalid (.mk k x cfg.vid []), st.tr ++ t)
    | .acc y t => ∃ st', DStmt.execL cfg x st (gs ++ rest) = DStmt.execL cfg x st' rest ∧ Denotes cfg x src y st' ∧
        st'.tr = st.tr ++ t

theorem retInvalid_ok (errE : DExp) (src : DExp) (k : ErrK)
    (he : ∀ st, errE.eval cfg x st = .ok (.errK k, st)) :
    GateOK cfg x [.ret (.pair (.bool false) (.mkInvalid errE .data .self))] src (.rej k []) := by
  intro st rest
  show outD (DStmt.execL cfg x st (_ :: rest)) = _
  rw [dexecL_retInvalid cfg x st _ _ _ k x (he st) rfl, List.append_nil]
  rfl

/-- `if not <c>: return False, Invalid(TypeErr(dict), data, self)`: `data` goes through unchanged (`DictValidatorAny`, `RecordValidator`) -/
theorem typeGate_ok (c : DExp) (p : Prop) [Decidable p]
    (hc : ∀ st, c.eval cfg x st = .ok (.bool (!decide p), st)) :
    GateOK cfg x [.ite c [.ret (.pair (.bool false) (.mkInvalid (.mkTypeErr .dictTy) .data .self))] []] .data
      (if p then .acc x [] else .rej (.type .dict) []) := by
  intro st rest
  rw [List.singleton_append, dexecL_ite_cons, hc]
  by_cases hp : p
  · simp only [hp, decide_true, Bool.not_true, dtruthy, if_true]
    exact ⟨st, rfl, denotes_data cfg x st, (List.append_nil _).symm⟩
  · simp only [hp, decide_false, Bool.not_false, dtruthy, if_false]
    exact retInvalid_ok cfg x _ .data _ (fun _ => rfl) st rest

/-- `if type(data) is dict: coerced_val = data else: <els>` -/
theorem dictElse_ok (els : List DStmt) (G : Gate)
    (hels : x.ty ≠ .dict → GateOK cfg x els (.var .coercedVal) G) :
    GateOK cfg x [.ite (.typeIs .data .dictTy) [.assign .coercedVal .data] els] (.var .coercedVal)
      (if x.ty = .dict then .acc x [] else G) := by
  intro st rest
  have hc : (DExp.typeIs .data .dictTy).eval cfg x st = .ok (.bool (decide (x.ty = .dict)), st) := rfl
  rw [List.singleton_append, dexecL_ite_cons, hc]
  by_cases hty : x.ty = .dict
  · simp only [hty, decide_true, dtruthy, if_true]
    exact ⟨{ st with env := st.env.set .coercedVal (.py x) }, dexecL_assign_cons cfg x st st _ _ _ _ rfl,
      denotes_coercedVal cfg x x _ rfl, (List.append_nil _).symm⟩
  · simp only [hty, decide_false, dtruthy, if_false]
    exact hels hty st rest

theorem dictCompat_eq (cls : ClassId) (c : CoerceK) : dictCompat cls c = c.compat .dict cls := by
  cases c <;> rfl

/-- `if self.coerce: <call it: CoercionErr, or coerced_val = what it returns> else: <els>`
    (`TypedDictValidator`, `DataclassValidator`, `NamedTupleValidator`) -/
def coerceGate (els : List DStmt) : DStmt :=
  .ite (.selfAttr .coerce)
    [.ite (.not (.attr (.walrus .coerced (.call1 (.selfAttr .coerce) .data)) .isJust))
       [.ret (.pair (.bool false) (.mkInvalid (.mkCoercionErr (.attr (.selfAttr .coerce) .compatibleTypes) .dictTy) .data .self))]
       [.assign .coercedVal (.attr (.var .coerced) .valA)]]
    els

theorem coerceGate_ok (els : List DStmt) (G : Gate)
    (hnone : cfg.coerce = none → GateOK cfg x els (.var .coercedVal) G)
    (hsome : ∀ c, cfg.coerce = some c → G = applyCoerce default .dict .dict cfg.cls c x) :
    GateOK cfg x [coerceGate els] (.var .coercedVal) G := by
  intro st rest
  have hattr : ∀ st : DSt, (DExp.selfAttr .coerce).eval cfg x st =
      .ok ((match cfg.coerce with | some c => AV.coercer c | none => AV.none), st) := fun _ => rfl
  rw [List.singleton_append, coerceGate, dexecL_ite_cons, hattr]
  cases hc : cfg.coerce with
  | none => exact hnone hc st rest
  | some c =>
    rw [hsome c hc]
    have hcond : (DExp.not (.attr (.walrus .coerced (.call1 (.selfAttr .coerce) .data)) .isJust)).eval cfg x st =
        .ok (.bool (!(callDictCoercer cfg.cls c x).1.isSome),
          ⟨st.env.set .coerced (.maybe (callDictCoercer cfg.cls c x).1), st.tr ++ (callDictCoercer cfg.cls c x).2⟩) := by
      simp only [DExp.eval, dselfAttr, hc, dtruthy]
    simp only [dtruthy]
    rw [List.singleton_append, dexecL_ite_cons, hcond]
    rcases callCoercer_cases default .dict .dict c x (callDictCoercer cfg.cls c x) (dictCompat cfg.cls c) rfl
        (dictCompat_eq cfg.cls c).symm with ⟨y, t, hg, hcc⟩ | ⟨t, hg, hcc⟩ <;> rw [hg, hcc]
    · simp only [Option.isSome_some, Bool.not_true, dtruthy]
      exact ⟨_, dexecL_assign_cons cfg x _ _ _ _ _ (.py y) rfl, denotes_coercedVal cfg x y _ rfl, rfl⟩
    · have herr : (DExp.mkCoercionErr (.attr (.selfAttr .coerce) .compatibleTypes) .dictTy).eval cfg x
          ⟨st.env.set .coerced (.maybe none), st.tr ++ t⟩ =
            .ok (.errK (.coercion (dictCompat cfg.cls c) .dict), ⟨st.env.set .coerced (.maybe none), st.tr ++ t⟩) := by
        simp only [DExp.eval, dselfAttr, hc]
      simp only [Option.isSome_none, Bool.not_false, dtruthy]
      show outD (DStmt.execL cfg x _ (_ :: rest)) = _
      rw [dexecL_retInvalid cfg x _ _ _ _ _ x herr rfl]
      rfl

/-- a whole method is `recordStep`; `hdict`: what the gate lets through is a dict (see `src_typeddict_generic`) -/
theorem recMethod_exec (o : Oracle) (m : Mode) (rc : RecCfg) (haoc : rc.aoc = cfg.aoc)
    (hfu : rc.failUnknown = cfg.failUnknown) (hkeys : rc.keys = cfg.keys) (hreqs : rc.reqs = cfg.reqs)
    (gs : List DStmt) (src : DExp) (tail : List DStmt) (hg : GateOK cfg x gs src (recGate o rc x))
    (hdict : ∀ y t, recGate o rc x = .acc y t → (dictItems y).isSome = true)
    (htail : ∀ (st : DSt) (y : PyVal) (data : List (PyVal × PyVal)), dictItems y = some data → Denotes cfg x src y st →
      outD (DStmt.execL cfg x st tail) = recRest cfg m rc y data st.tr) :
    outD (DStmt.execL cfg x { env := {}, tr := [] } (guardOf m ++ (gs ++ kScan src :: tail))) =
      recordStep o m cfg.vid rc cfg.evs x := by
  have hguard : ¬ (m = .sync ∧ rc.aoc.isSome = true) →
      DStmt.execL cfg x { env := {}, tr := [] } (guardOf m ++ (gs ++ kScan src :: tail)) =
        DStmt.execL cfg x { env := {}, tr := [] } (gs ++ kScan src :: tail) := by
    intro h
    cases m with
    | async => rfl
    | sync => rw [guardOf, List.singleton_append, dGuard_exec, ← haoc, if_neg fun h' => h ⟨rfl, h'⟩]
  have hg0 := hg { env := {}, tr := [] } (kScan src :: tail)
  unfold recordStep
  cases hp : recPre o m cfg.vid rc x with
  | inl r =>
    cases recPre_eq_iff.mp hp with
    | guard h1 h2 =>
      subst h1
      rw [guardOf, List.singleton_append, dGuard_exec, ← haoc, if_pos h2]
      rfl
    | rej hgd h => rw [hguard hgd]; rw [h] at hg0; exact hg0
    | noItems hgd h hd => exact absurd (hdict _ _ h) (by rw [hd]; exact Bool.false_ne_true)
    | unknown hgd h hd hu =>
      rw [hguard hgd]
      rw [h] at hg0
      obtain ⟨st', h1, h2, h3⟩ := hg0
      rw [hfu, hkeys] at hu
      rw [h1, (kScan_exec cfg x src _ st' tail _ hd h2).1 hu, h3, hkeys]
      rfl
  | inr p =>
    obtain ⟨y, data, t⟩ := p
    cases recPre_eq_iff.mp hp with
    | pass hgd h hd hu =>
      rw [hguard hgd]
      rw [h] at hg0
      obtain ⟨st', h1, h2, h3⟩ := hg0
      rw [hfu, hkeys] at hu
      obtain ⟨st'', e1, e2, e3⟩ := (kScan_exec cfg x src y st' tail data hd h2).2 (Bool.eq_false_iff.mpr hu)
      rw [h1, e1, htail st'' y data hd (h2.frame e3), e2, h3, hkeys, hreqs]
      rfl

end Koda
