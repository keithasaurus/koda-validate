/-
  C17 — a whole-tree fixed-point theorem.

  `fix17 v`: the fragment — scalars with no coercer (no processor, or one built-in processor on a string
  validator) or with their default coercer and no processor, equality (no processor) / None / always-valid / is-dict
  validators, lists, sets, uniform tuples and n-tuples without container predicates or whole-object
  check, maps without container predicates, DictValidatorAny / TypedDictValidator (string keys, any
  requiredness, either unknown-key policy, any whole-object check), DataclassValidator /
  NamedTupleValidator whose fields are all required (a default is used "on trust" and need not be a
  fixed point), optionals, Maybe, user-written wrappers and Lazy (through the environment), nested to
  any depth.
  For every such tree, every input and every amount of fuel: if the validator returns `Valid w`, then
  validating `w` returns `Valid w`.

  Not in the fragment, and why: container predicates (finding D22: they are evaluated on the coerced
  input, not the payload), unions (finding D25: an earlier variant may take the payload over; see
  `C17_union_fixed_partial`), `RecordValidator` (its payload is whatever `into` returns, not a dict),
  record coercers, class records with defaulted fields, `KeyNotRequired` (its payload `Just w` is not
  an input of the inner validator).
-/
import KodaModel.Properties.C07
import KodaModel.Properties.C17Union
import KodaModel.Properties.C17Cont

namespace Koda

def builtinProc (p : Proc) : Bool :=
  match p.k with
  | .strip | .upper | .lower => true
  | _ => false

def scalarFix (tg : Ty) (c : Option CoerceK) (pre : List Proc) : Bool :=
  match c, pre with
  | none, [] => true
  | none, [p] => tg == .str && builtinProc p
  | some .dflt, [] => coercing tg
  | _, _ => false

def isDflt17 : Option CoerceK → Bool
  | some .dflt => true
  | _ => false

def keyNamesB : List PyVal → List String → Bool
  | [], [] => true
  | .str s :: ks, n :: ns => s == n.toList.map Char.toNat && keyNamesB ks ns
  | _, _ => false

theorem keyNamesB_eq (ks : List PyVal) (ns : List String) : keyNamesB ks ns = true → ks = ns.map keyStr := by
  induction ks, ns using keyNamesB.induct with
  | case1 => intro _; rfl
  | case2 s ks n ns ih =>
    intro h
    simp only [keyNamesB, Bool.and_eq_true, beq_iff_eq] at h
    simp only [List.map_cons, keyStr, List.cons.injEq, PyVal.str.injEq]
    exact ⟨h.1, ih h.2⟩
  | case3 ks ns h1 h2 =>
    intro h
    rw [keyNamesB.eq_3 _ _ h1 h2] at h
    cases h

/-- record configurations of the fragment (`n` = number of child validators) -/
def recFix (cfg : RecCfg) (n : Nat) : Bool :=
  keysOKb cfg.keys && n == cfg.keys.length && cfg.keys.length == cfg.reqs.length &&
  (match cfg.kind with
   | .dictAny => true
   | .typeddict => cfg.coerce.isNone
   | .dataclass | .namedtuple =>
     cfg.coerce.isNone && keyNamesB cfg.keys cfg.fieldNames && cfg.fieldNames.length == cfg.defaults.length &&
       cfg.reqs.all id
   | .record => false)

def plainNone : V → Bool
  | .noneV _ none => true
  | _ => false

mutual
def fix17 : V → Bool
  | .scalar _ tg c pre _ _ => scalarFix tg c pre
  | .equals _ _ pre _ => pre.isEmpty
  | .noneV _ c => c.isNone
  | .always _ => true
  | .isDict _ => true
  | .list _ item ps aps c => ps.isEmpty && aps.isEmpty && c.isNone && fix17 item
  | .utuple _ item ps aps c => ps.isEmpty && aps.isEmpty && isDflt17 c && fix17 item
  | .ntuple _ fs oc c _ => oc.isNone && isDflt17 c && fix17L fs
  | .optional _ nv inner => plainNone nv && fix17 inner
  | .maybe _ inner => fix17 inner
  | .lazy _ _ => true
  | .user _ inner => fix17 inner
  | .set _ item ps aps c => ps.isEmpty && aps.isEmpty && c.isNone && fix17 item
  | .map _ kv vv ps aps c => ps.isEmpty && aps.isEmpty && c.isNone && fix17 kv && fix17 vv
  | .record _ cfg vs => recFix cfg vs.length && fix17L vs
  | .union .. => false
  | .knr .. => false
termination_by structural v => v
def fix17L : List V → Bool
  | [] => true
  | v :: vs => fix17 v && fix17L vs
termination_by structural vs => vs
end

theorem isDflt17_eq {c : Option CoerceK} (h : isDflt17 c = true) : c = some .dflt := by
  unfold isDflt17 at h
  split at h <;> simp_all

theorem fix17L_mem : ∀ {vs : List V}, fix17L vs = true → ∀ v ∈ vs, fix17 v = true
  | [], _, v, hv => by simp at hv
  | a :: vs, h, v, hv => by
    simp only [fix17L, Bool.and_eq_true] at h
    simp only [List.mem_cons] at hv
    rcases hv with rfl | hv
    · exact h.1
    · exact fix17L_mem h.2 v hv

theorem builtinProc_iff (p : Proc) : builtinProc p = true ↔ p.k = .strip ∨ p.k = .upper ∨ p.k = .lower := by
  unfold builtinProc
  split <;> simp_all

theorem builtin_call_str (p : Proc) (hk : p.k = .strip ∨ p.k = .upper ∨ p.k = .lower) (s : List Nat) (z : PyVal)
    (h : p.k.call (.str s) = .ok z) : z.ty = .str := by
  rcases hk with hk | hk | hk <;> rw [hk] at h <;> cases h <;> rfl

theorem ty_str (x : PyVal) (h : x.ty = .str) : ∃ s, x = .str s := by
  cases x <;> simp [PyVal.ty] at h
  exact ⟨_, rfl⟩

theorem C17_scalar_tree (o : Oracle) (ho : OracleTyped o) (m : Mode) (vid : Nat) (tg : Ty) (c : Option CoerceK)
    (pre : List Proc) (ps aps : List Pred) (hf : scalarFix tg c pre = true) (x w : PyVal) (t : List Ev)
    (h : scalarStep o m vid tg c pre ps aps x = (.valid w, t)) :
    ∃ t', scalarStep o m vid tg c pre ps aps w = (.valid w, t') := by
  obtain ⟨_, y, t0, t1, hg, hp, _⟩ := (C02_accept_iff ..).1 h
  unfold scalarFix at hf
  split at hf
  · -- no coercer, no processor: the payload is the input, of the validator's type
    cases hp
    exact C17_scalar_fixed o m vid tg none [] ps aps x w t h (GateFix_exact o (GateFix_none o tg x w t0 hg))
      (ProcsFix_nil w)
  · -- no coercer, one built-in processor on a string: the payload is a string again, and the processor is idempotent
    rename_i p
    obtain ⟨rfl, hb⟩ : tg = .str ∧ builtinProc p = true := by simpa using hf
    have hk := (builtinProc_iff p).1 hb
    obtain ⟨s, rfl⟩ := ty_str y (GateFix_none o .str x y t0 hg)
    cases hc : p.k.call (.str s) with
    | error e => simp [runProcs, hc] at hp
    | ok z =>
      obtain ⟨rfl, _⟩ : z = w ∧ p.ev = t1 := by simpa [runProcs, hc] using hp
      exact C17_scalar_fixed o m vid .str none [p] ps aps x z t h (GateFix_exact o (builtin_call_str p hk s z hc))
        (ProcsFix_builtin p s z hk hc)
  · -- default coercer on a coercing type: the payload has the type (`OracleTyped`), and passes unchanged
    cases hp
    exact C17_scalar_fixed o m vid tg (some .dflt) [] ps aps x w t h
      (GateFix_default o tg w (defaultCoerce_typed o ho tg hf x w (gate_dflt_acc hg)) ((coercing_iff tg).1 hf))
      (ProcsFix_nil w)
  · cases hf

theorem plainNone_eq {nv : V} (h : plainNone nv = true) : ∃ nvid, nv = .noneV nvid none := by
  unfold plainNone at h
  split at h
  · exact ⟨_, rfl⟩
  · cases h

theorem recordStep_payloadsFixed (o : Oracle) (m : Mode) (vid : Nat) (cfg : RecCfg) {evs : List Ev1}
    (hf : recFix cfg evs.length = true) (hevs : ∀ ev ∈ evs, PayloadsFixed ev) :
    PayloadsFixed (recordStep o m vid cfg evs) := by
  intro x w t h
  simp only [recFix, Bool.and_eq_true, beq_iff_eq] at hf
  obtain ⟨⟨⟨hkeys, hl1⟩, hl2⟩, hkind⟩ := hf
  cases hk : cfg.kind with
  | record => simp [hk] at hkind
  | dictAny => exact C17_dictrecord_fixed o m vid cfg _ x w t (.inl hk) hkeys h hevs
  | typeddict =>
    simp only [hk, Option.isNone_iff_eq_none] at hkind
    exact C17_dictrecord_fixed o m vid cfg _ x w t (.inr ⟨hk, hkind⟩) hkeys h hevs
  | dataclass | namedtuple =>
    simp only [hk, Bool.and_eq_true, Option.isNone_iff_eq_none, beq_iff_eq] at hkind
    obtain ⟨⟨⟨hco, hkn⟩, hdl⟩, hreq⟩ := hkind
    exact C17_classrecord_fixed o m vid cfg _ x w t (by simp [hk]) hco hkeys (keyNamesB_eq _ _ hkn) hdl hreq hl1 hl2 h hevs

/-- **C17 for every tree of the fragment** -/
theorem C17_tree_partial (o : Oracle) (ho : OracleTyped o) (env : Nat → V) (henv : ∀ i, fix17 (env i) = true)
    (m : Mode) : ∀ n v x w t, fix17 v = true → run o env m n v x = some (.valid w, t) →
      ∃ t', run o env m n v w = some (.valid w, t') := by
  intro n
  induction n with
  | zero => intro v x w t _ h; cases h
  | succ n ih =>
    intro v x w t hf h
    have ihf : ∀ v, fix17 v = true → PayloadsFixed (run o env m n v) := fun v hv x w t h => ih v x w t hv h
    have ihL : ∀ vs, fix17L vs = true → ∀ ev ∈ vs.map (run o env m n), PayloadsFixed ev := by
      intro vs hvs ev hev
      obtain ⟨f, hfm, rfl⟩ := List.mem_map.1 hev
      exact ihf f (fix17L_mem hvs f hfm)
    cases v with
    | scalar vid tg c pre ps aps =>
      simp only [run, Option.some.injEq] at h ⊢
      exact C17_scalar_tree o ho m vid tg c pre ps aps hf x w t h
    | equals vid mt pre pid =>
      obtain rfl : pre = [] := List.isEmpty_iff.1 hf
      simp only [run, Option.some.injEq] at h ⊢
      obtain ⟨_, hp, _⟩ := (C02_equals_accept_iff ..).1 h
      cases hp
      exact ⟨[], h⟩
    | noneV vid c =>
      obtain rfl : c = none := Option.isNone_iff_eq_none.1 hf
      simp only [run, Option.some.injEq] at h ⊢
      obtain ⟨_, rfl, _⟩ := (noneStep_valid_iff ..).1 h
      exact ⟨[], rfl⟩
    | always vid => exact ⟨[], rfl⟩
    | isDict vid =>
      simp only [run, Option.some.injEq] at h ⊢
      unfold isDictStep at h
      split at h
      · rename_i hb
        cases h
        exact ⟨[], C17_isDict vid x hb⟩
      · cases h
    | list vid item ps aps c =>
      simp only [fix17, Bool.and_eq_true, List.isEmpty_iff, Option.isNone_iff_eq_none] at hf
      obtain ⟨⟨⟨rfl, rfl⟩, rfl⟩, hfi⟩ := hf
      exact seqStep_payloadsFixed .list o m vid none (fun _ => rfl) (ihf item hfi) x w t h
    | utuple vid item ps aps c =>
      simp only [fix17, Bool.and_eq_true, List.isEmpty_iff] at hf
      obtain ⟨⟨⟨rfl, rfl⟩, hc⟩, hfi⟩ := hf
      obtain rfl := isDflt17_eq hc
      exact seqStep_payloadsFixed .utuple o m vid (some .dflt) (fun _ => rfl) (ihf item hfi) x w t h
    | set vid item ps aps c =>
      simp only [fix17, Bool.and_eq_true, List.isEmpty_iff, Option.isNone_iff_eq_none] at hf
      obtain ⟨⟨⟨rfl, rfl⟩, rfl⟩, hfi⟩ := hf
      exact seqStep_payloadsFixed .set o m vid none (fun _ => rfl) (ihf item hfi) x w t h
    | ntuple vid fs oc c lp =>
      simp only [fix17, Bool.and_eq_true, Option.isNone_iff_eq_none] at hf
      obtain ⟨⟨rfl, hc⟩, hfs⟩ := hf
      obtain rfl := isDflt17_eq hc
      exact ntupleStep_payloadsFixed o vid lp (ihL fs hfs) x w t h
    | optional vid nv inner =>
      simp only [fix17, Bool.and_eq_true] at hf
      obtain ⟨nvid, rfl⟩ := plainNone_eq hf.1
      -- at fuel 0 the variants return nothing; above, the first is the plain None validator
      cases n with
      | zero => cases h
      | succ n' => exact C17_optional_fixed o nvid vid _ x w t h (fun ⟨u, hu⟩ => ih inner x w u hf.2 hu)
    | maybe vid inner => exact maybeStep_payloadsFixed vid (ihf inner hf) x w t h
    | «lazy» vid ref => exact ih (env ref) x w t (henv ref) h
    | user vid inner => exact userStep_payloadsFixed vid m (ihf inner hf) x w t h
    | map vid kv vv ps aps c =>
      simp only [fix17, Bool.and_eq_true, List.isEmpty_iff, Option.isNone_iff_eq_none] at hf
      obtain ⟨⟨⟨⟨rfl, rfl⟩, rfl⟩, hfk⟩, hfv⟩ := hf
      exact C17_map_fixed o m vid _ _ x w t h (ihf kv hfk) (ihf vv hfv)
    | record vid cfg vs =>
      simp only [fix17, Bool.and_eq_true] at hf
      exact recordStep_payloadsFixed o m vid cfg (by simpa using hf.1) (ihL vs hf.2) x w t h
    | union vid vs => cases hf
    | knr vid inner => cases hf

/-! ### non-vacuity: `Optional[List[Tuple[Decimal, str (stripped)]]]` -/

def exFix : V :=
  .optional 1 (.noneV 2 none)
    (.list 3 (.ntuple 4 [.scalar 5 .decimal (some .dflt) [] [] [], .scalar 6 .str none [⟨1, .strip⟩] [⟨2, .minLength 1⟩] []]
      none (some .dflt) 9) [] [] none)

example : fix17 exFix = true := by decide

/-- `TypedDict('T', {'a': Set[int], 'b': NotRequired[Dict[str, Decimal]]})` and a two-field dataclass -/
def exFix2 : V :=
  .record 20 { kind := .typeddict, keys := [.str [97], .str [98]], reqs := [true, false], cls := default,
               fieldNames := [], defaults := [], intoId := 0, into := fun _ => .none, oc := none, aoc := none,
               failUnknown := true, coerce := none }
    [.set 21 (.scalar 22 .int none [] [] []) [] [] none,
     .map 23 (.scalar 24 .str none [] [] []) (.scalar 25 .decimal (some .dflt) [] [] []) [] [] none]

example : fix17 exFix2 = true := by decide

def exFix3 : V :=
  .record 30 { kind := .dataclass, keys := [keyStr "x", keyStr "y"], reqs := [true, true], cls := ⟨1, 1, false, false⟩,
               fieldNames := ["x", "y"], defaults := [none, none], intoId := 0, into := fun _ => .none, oc := none,
               aoc := none, failUnknown := false, coerce := none }
    [.scalar 31 .int none [] [] [], exFix2]

example : fix17 exFix3 = true := by decide

end Koda
