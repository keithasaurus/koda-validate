/-
  C11, pattern texts: `parsePat` reads back exactly what `Pat.source` (and the StartsWith / EndsWith
  generators, which are instances of it) writes — for every pattern of the restricted syntax.
-/
import KodaModel.SchemaEval
import KodaModel.Properties.C15

namespace Koda

/-- a reader state outside an escape, before any `$`, without error: what has been read (`a`, `r` reversed),
    the class being read, and the two flags `first` / `closed` -/
def rd (a : Bool) (r : List PatEl) (cur : Option (List Nat)) (first closed : Bool) : PState :=
  { first := first, anchorStart := a, els := r, cur := cur, closed := closed }

theorem reEscape_cons (c : Nat) (cs : List Nat) :
    reEscape (c :: cs) = (if isSpecial c then [92, c] else [c]) ++ reEscape cs := rfl

theorem not_special {c k : Nat} (h : isSpecial c = false) (hk : isSpecial k = true) : (c == k) = false :=
  beq_eq_false_iff_ne.2 fun e => by rw [e, hk] at h; cases h

theorem foldl_escaped_lit (a : Bool) (r : List PatEl) (f cl : Bool) (c : Nat) :
    (reEscape [c]).foldl pstep (rd a r none f cl) = rd a (.lit c :: r) none false false := by
  rw [reEscape_cons, reEscape, List.flatMap_nil, List.append_nil]
  cases hs : isSpecial c
  · simp [pstep, rd, hs, not_special hs (k := 92) rfl, not_special hs (k := 94) rfl, not_special hs (k := 91) rfl,
      not_special hs (k := 42) rfl, not_special hs (k := 46) rfl, not_special hs (k := 36) rfl]
  · simp [pstep, rd]

theorem foldl_escaped_mem (a : Bool) (r : List PatEl) (cs : List Nat) (c : Nat) :
    (if isSpecial c then [92, c] else [c]).foldl pstep (rd a r (some cs) false false) =
      rd a r (some (c :: cs)) false false := by
  cases hs : isSpecial c
  · simp [pstep, rd, hs, not_special hs (k := 92) rfl, not_special hs (k := 93) rfl]
  · simp [pstep, rd]

theorem foldl_escaped_mems (a : Bool) (r : List PatEl) (cs : List Nat) : ∀ acc : List Nat,
    (reEscape cs).foldl pstep (rd a r (some acc) false false) = rd a r (some (cs.reverse ++ acc)) false false := by
  induction cs with
  | nil => exact fun _ => rfl
  | cons c cs ih =>
    intro acc
    rw [reEscape_cons, List.foldl_append, foldl_escaped_mem, ih, List.reverse_cons, List.append_assoc]
    rfl

/-- the reader remembers that a `]` was just read (`closed`), which is what lets a following `*` through -/
theorem foldl_cls (a : Bool) (r : List PatEl) (f cl : Bool) (cs : List Nat) :
    ([91] ++ reEscape cs ++ [93]).foldl pstep (rd a r none f cl) = rd a (.cls cs :: r) none false true := by
  simp only [List.foldl_append, List.foldl_cons, List.foldl_nil]
  rw [show pstep (rd a r none f cl) 91 = rd a r (some []) false false by simp [pstep, rd], foldl_escaped_mems]
  simp [pstep, rd]

def elSource : PatEl → List Nat
  | .lit c => reEscape [c]
  | .cls cs => [91] ++ reEscape cs ++ [93]
  | .any => [46]
  | .star cs => [91] ++ reEscape cs ++ [93, 42]

theorem foldl_el (a : Bool) (r : List PatEl) (f cl : Bool) (e : PatEl) :
    ∃ cl', (elSource e).foldl pstep (rd a r none f cl) = rd a (e :: r) none false cl' := by
  cases e with
  | lit c => exact ⟨false, foldl_escaped_lit a r f cl c⟩
  | cls cs => exact ⟨true, foldl_cls a r f cl cs⟩
  | any => exact ⟨false, by simp [elSource, pstep, rd]⟩
  | star cs =>
    refine ⟨false, ?_⟩
    rw [elSource, show [93, 42] = [93] ++ [42] from rfl, ← List.append_assoc, List.foldl_append, foldl_cls]
    simp [pstep, rd]

theorem foldl_els (a : Bool) (els : List PatEl) : ∀ (r : List PatEl) (f cl : Bool),
    ∃ f' cl', (els.flatMap elSource).foldl pstep (rd a r none f cl) = rd a (els.reverse ++ r) none f' cl' := by
  induction els with
  | nil => exact fun r f cl => ⟨f, cl, rfl⟩
  | cons e es ih =>
    intro r f cl
    obtain ⟨cl1, h1⟩ := foldl_el a r f cl e
    obtain ⟨f', cl', h2⟩ := ih (e :: r) false cl1
    exact ⟨f', cl', by rw [List.flatMap_cons, List.foldl_append, h1, h2, List.reverse_cons, List.append_assoc]; rfl⟩

theorem source_eq (p : Pat) :
    p.source = (if p.anchorStart then [94] else []) ++ p.els.flatMap elSource ++ (if p.anchorEnd then [36] else []) := by
  simp only [Pat.source]
  congr 2

/-- **round trip**: the reader recovers every pattern from its source text -/
theorem parsePat_source (p : Pat) : parsePat p.source = some p := by
  obtain ⟨a, els, e⟩ := p
  have h0 : (if a then [94] else []).foldl pstep {} = rd a [] none (!a) false := by
    cases a
    · rfl
    · simp [pstep, rd]
  obtain ⟨f, cl, h1⟩ := foldl_els a els [] (!a) false
  rw [source_eq, parsePat, List.foldl_append, List.foldl_append, h0, h1]
  cases e <;> simp [pstep, rd]

/-- the NotBlank text is not in the restricted syntax (its `(` is not escaped), so no pattern is written as it -/
theorem source_ne_notBlank (p : Pat) : p.source ≠ notBlankText := fun h => by
  have hp := parsePat_source p
  rw [h, show parsePat notBlankText = none by decide] at hp
  cases hp

theorem patHolds_source (p : Pat) (s : List Nat) : patHolds p.source s = some (p.search s) := by
  rw [patHolds, if_neg (by rw [beq_iff_eq]; exact source_ne_notBlank p), parsePat_source]
  rfl

theorem matchEls_lits_none (q : List Nat) : ∀ (s : List Nat) (f : Nat),
    matchEls (q.map .lit) s .none f = isPrefix q s := by
  induction q with
  | nil => intro s f; simp [matchEls, atEnd, isPrefix]
  | cons a as ih =>
    intro s f
    cases s with
    | nil => simp [matchEls, isPrefix]
    | cons b bs => simp [matchEls, isPrefix, ih]

theorem search_prefix (q s : List Nat) : Pat.search ⟨true, q.map .lit, false⟩ s = isPrefix q s := by
  simp [Pat.search, matchEls_lits_none]

theorem matchEls_lits_ecma (q : List Nat) : ∀ (s : List Nat) (f : Nat),
    matchEls (q.map .lit) s .ecma f = (s == q) := by
  induction q with
  | nil => intro s f; cases s <;> simp [matchEls, atEnd]
  | cons a as ih =>
    intro s f
    cases s with
    | nil => simp [matchEls]
    | cons b bs =>
      simp only [List.map_cons, matchEls, ih]
      have hc : (a == b) = (b == a) := by
        rw [Bool.eq_iff_iff]; simp only [beq_iff_eq]; exact eq_comm
      rw [hc]; rfl

theorem isSuffix_iff (q s : List Nat) : isSuffix q s = true ↔ ∃ t, s = t ++ q := by
  simp only [isSuffix, isPrefix_iff]
  constructor
  · rintro ⟨t, h⟩
    refine ⟨t.reverse, ?_⟩
    have := congrArg List.reverse h
    simpa using this
  · rintro ⟨t, rfl⟩
    exact ⟨t.reverse, by simp⟩

/-- ECMA-262: `$` is the end of input -/
theorem search_suffix (q s : List Nat) : Pat.search ⟨false, q.map .lit, true⟩ s = isSuffix q s := by
  simp only [Pat.search, if_true, Bool.false_eq_true, if_false, matchEls_lits_ecma]
  apply Bool.eq_iff_iff.2
  rw [isSuffix_iff]
  simp only [List.any_eq_true, List.mem_range, beq_iff_eq]
  constructor
  · rintro ⟨i, _, h⟩
    exact ⟨s.take i, by rw [← h, List.take_append_drop]⟩
  · rintro ⟨t, rfl⟩
    refine ⟨t.length, by simp; omega, by simp⟩

theorem flatMap_elSource_lit (q : List Nat) : (q.map .lit).flatMap elSource = reEscape q := by
  induction q with
  | nil => rfl
  | cons c cs ih =>
    rw [List.map_cons, List.flatMap_cons, ih, elSource, reEscape_cons c [], reEscape_cons c cs]
    exact congrArg (· ++ reEscape cs) (List.append_nil _)

theorem patHolds_prefix (q s : List Nat) : patHolds ([94] ++ reEscape q) s = some (isPrefix q s) := by
  have := patHolds_source ⟨true, q.map .lit, false⟩ s
  rwa [source_eq, flatMap_elSource_lit, search_prefix, if_pos rfl, if_neg Bool.false_ne_true, List.append_nil] at this

theorem patHolds_suffix (q s : List Nat) : patHolds (reEscape q ++ [36]) s = some (isSuffix q s) := by
  have := patHolds_source ⟨false, q.map .lit, true⟩ s
  rwa [source_eq, flatMap_elSource_lit, search_suffix, if_neg Bool.false_ne_true, if_pos rfl, List.nil_append] at this

end Koda
