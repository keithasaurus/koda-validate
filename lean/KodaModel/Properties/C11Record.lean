/-
  C11, record-shaped validators: the object schema (`type`, `additionalProperties`, `required`,
  `properties`) — schema side, given what the field schemas decide.
-/
import KodaModel.Properties.C11Containers

namespace Koda

def recordObj (failUnknown : Bool) (req : List (List Nat)) (props : JObj) : JObj :=
  [(kw "type", .str (kw "object")), (kw "additionalProperties", .bool (!failUnknown)),
   (kw "required", .arr (req.map J.str)), (kw "properties", .obj props)]

def knownOrAllowed (names : List (List Nat)) (fu : Bool) (p : PyVal × PyVal) : Bool :=
  match keyText p.1 with
  | some nm => names.contains nm || !fu
  | none => false

def propOk (g : J → PyVal → Bool) (kvs : List (PyVal × PyVal)) (p : List Nat × J) : Bool :=
  match dictGet kvs (.str p.1) with
  | some val => g p.2 val
  | none => true

/-- **record-shaped validators (schema side)**: the object schema accepts `x` iff `x` is an object, every
    member is a declared property or additional members are allowed, every required name is present,
    and every present declared property satisfies its schema -/
theorem C11_record_schema (root : J) (ref : Option (List Nat)) (fu : Bool) (req : List (List Nat)) (props : JObj)
    (g : J → PyVal → Bool) (N : Nat) (hN : 1 ≤ N) (x : PyVal)
    (hkeys : ∀ p ∈ dictKvs x, ∃ nm, p.1 = .str nm)
    (hprops : ∀ p ∈ props, ∀ val, dictGet (dictKvs x) (.str p.1) = some val →
      DecidesAt root ref p.2 N val (g p.2 val)) :
    DecidesAt root ref (.obj (recordObj fu req props)) (N + 1) x
      (isDictV x &&
        ((dictKvs x).all (knownOrAllowed (props.map (·.1)) fu) &&
         (req.all (fun nm => dictHas (dictKvs x) (.str nm)) && props.all (propOk g (dictKvs x))))) := by
  intro n hn
  obtain ⟨m, rfl⟩ : ∃ m, n = m + 1 := ⟨n - 1, by omega⟩
  refine evalSchema_typed root ref m _ (kw "object") x _ _ ?_ ?_ (typeOk_object x) fun hd => ?_
  · simp only [recordObj, jGet_cons, jGet_nil, String.reduceEq, ↓reduceIte]
  · simp only [recordObj, jGet_cons, ↓reduceIte]
  obtain ⟨oid, kvs, rfl⟩ := isDictV_eq hd
  simp only [dictKvs] at hkeys hprops ⊢
  simp only [objEval, recordObj, allM, evalKw_type, typeOk_object, evalKw_additionalProperties, evalKw_required,
    evalKw_properties, propNames, jGet_cons, String.reduceEq, ↓reduceIte, isDictV]
  rw [allM_eq_some_all _ (knownOrAllowed (props.map (·.1)) fu) kvs fun p hp => ?_,
    allM_eq_some_all _ (propOk g kvs) props fun p hp => ?_]
  · simp only [OB_and_some, Bool.true_and, Bool.and_true]
  · -- a declared property that is present satisfies its schema
    rw [propOk]
    cases hg : dictGet kvs (.str p.1) with
    | none => rfl
    | some val => exact hprops p hp val hg m (by omega)
  · -- a member is a declared property, or is allowed (`additionalProperties` is a Boolean schema)
    obtain ⟨nm, hnm⟩ := hkeys p hp
    obtain ⟨m', rfl⟩ : ∃ m', m = m' + 1 := ⟨m - 1, by omega⟩
    rw [knownOrAllowed, hnm]
    cases hc : (props.map (·.1)).contains nm <;> simp only [keyText, hc, Bool.false_eq_true, if_false, if_true] <;> rfl

end Koda
