/-
  C06 — Sync and async validation agree; async-only checks are never silently skipped.
-/
import KodaModel.Lemmas.Agree

namespace Koda

/-- **Agreement, for every validator tree, input and amount of fuel**: if the synchronous run
    returns an outcome `r` other than the guard's `AssertionError`, the asynchronous run of the same
    input returns the *same* outcome — same verdict, same payload, the same error tree with the same
    values (object identities included) and the same validator identities — and evaluated no
    async-only predicate or object check. -/
theorem C06_agree (o : Oracle) (env : Nat → V) :
    ∀ n v, Rel (run o env .sync n v) (run o env .async n v) := by
  intro n
  induction n with
  | zero => intro v x r t h; cases h
  | succ n ih =>
    intro v
    have leaf : ∀ {p q : Out × List Ev}, (p.1 ≠ .raised .assertion → q = p ∧ noA p.2 = true) →
        Rel (fun _ => some p) (fun _ => some q) := by
      intro p q hpq x r t h hr
      cases h
      obtain ⟨rfl, hn⟩ := hpq hr
      exact ⟨_, rfl, hn⟩
    cases v with
    | scalar vid tg c pre ps aps =>
      exact fun x => leaf (fun hr => scalarStep_agree o vid tg c pre ps aps x _ _ rfl hr) x
    | equals vid mt pre pid => exact fun x => leaf (fun _ => ⟨rfl, equalsStep_noA vid mt pre pid x⟩) x
    | noneV vid c => exact fun x => leaf (fun _ => ⟨rfl, noneStep_noA o vid c x⟩) x
    | always vid => exact fun x => leaf (p := (.valid x, [])) (fun _ => ⟨rfl, rfl⟩) x
    | isDict vid => exact fun x => leaf (fun _ => ⟨rfl, by unfold isDictStep; split <;> rfl⟩) x
    | list vid item ps aps c | set vid item ps aps c | utuple vid item ps aps c =>
      exact seqStep_agree _ _ _ _ _ _ (ih item)
    | ntuple vid fs oc c lp => exact ntupleStep_agree _ _ _ _ _ (RelL.map _ _ ih fs)
    | map vid kv vv ps aps c => exact mapStep_agree _ _ _ _ _ (ih kv) (ih vv)
    | record vid cfg vs => exact recordStep_agree _ _ _ (RelL.map _ _ ih vs)
    | union vid vs => exact unionStep_agree _ (RelL.map _ _ ih vs)
    | optional vid nv inner => exact unionStep_agree _ (.cons (ih nv) (.cons (ih inner) .nil))
    | maybe vid inner => exact maybeStep_agree _ (ih inner)
    | «lazy» vid ref => exact ih _
    | knr vid inner => exact knrStep_agree (ih inner)
    | user vid inner => exact userStep_agree _ (ih inner)

theorem C06_agree_Run (o : Oracle) (env : Nat → V) (v : V) (x : PyVal) (r : Out) (ts : List Ev)
    (h : Run o env .sync v x r ts) (hr : r ≠ .raised .assertion) :
    ∃ ta, Run o env .async v x r ta ∧ noA ta = true := by
  obtain ⟨n, hn⟩ := h
  obtain ⟨ta, h1, h2⟩ := C06_agree o env n v x r ts hn hr
  exact ⟨ta, ⟨n, h1⟩, h2⟩

/-- **never silently skipped**: a verdict of the sync run coincides with the async verdict, whose
    run contained no async-only check — so no async-only check that *would* be evaluated was left
    out of a sync verdict.  (Contrapositive form: if the async run evaluates an async-only check,
    the sync run raised `AssertionError`.) -/
theorem C06_never_skipped (o : Oracle) (env : Nat → V) (v : V) (x : PyVal) (rs ra : Out) (ts ta : List Ev)
    (hs : Run o env .sync v x rs ts) (ha : Run o env .async v x ra ta) (hev : noA ta = false) :
    rs = .raised .assertion := by
  by_cases hr : rs = .raised .assertion
  · exact hr
  · obtain ⟨ta', h1, h2⟩ := C06_agree_Run o env v x rs ts hs hr
    obtain ⟨_, e⟩ := Run.unique h1 ha
    rw [e] at h2
    rw [h2] at hev
    exact absurd hev (by simp)

/-! ### non-vacuity: a tree with an async predicate two levels down -/

/-- sync raises, async evaluates the async predicate -/
example :
    (run default (fun _ => .always 0) .sync 3
      (.list 1 (.scalar 2 .int none [] [] [⟨9, .user (fun _ => true)⟩]) [] [] none) (.list 5 [.int 1])).map (·.1)
      = some (.raised .assertion) ∧
    (run default (fun _ => .always 0) .async 3
      (.list 1 (.scalar 2 .int none [] [] [⟨9, .user (fun _ => true)⟩]) [] [] none) (.list 5 [.int 1])).map (·.2)
      = some [.apred 9] := by
  constructor <;> rfl

end Koda
