/-
  C18 — refining a container or record validator only narrows; one-key dict validators.
-/
import KodaModel.Properties.C18

namespace Koda

theorem ContPre.drop_preds {α : Type} {g d : Ty} {items : PyVal → Option α} {exn : Exn} {o : Oracle} {m : Mode}
    {vid : Nat} {ps qs aps : List Pred} {c : Option CoerceK} {x y : PyVal} {xs : α} {t : List Ev}
    (h : ContPre g d items exn o m vid (ps ++ qs) aps c x (.inr (y, xs, t))) :
    ∃ t', ContPre g d items exn o m vid ps aps c x (.inr (y, xs, t')) := by
  obtain ⟨hg, ta, tb, hgate, hpreds, hit, rfl⟩ := ContPre.inr_iff.1 h
  obtain ⟨tb', hpreds'⟩ := contPreds_pass_prefix hpreds
  exact ⟨_, ContPre.inr_iff.2 ⟨hg, ta, tb', hgate, hpreds', hit, rfl⟩⟩

/-- **adding a container predicate** (list, set, uniform tuple): whatever the refined validator
    accepts, the original accepts with the same payload -/
theorem C18_add_seq_predicate (k : SeqKind) (o : Oracle) (m : Mode) (vid : Nat) (ps : List Pred) (p : Pred)
    (aps : List Pred) (c : Option CoerceK) (ev : Ev1) (x w : PyVal) (t : List Ev)
    (h : seqStep k o m vid (ps ++ [p]) aps c ev x = some (.valid w, t)) :
    ∃ t', seqStep k o m vid ps aps c ev x = some (.valid w, t') := by
  rcases seqStep_some.1 h with hp | ⟨y, xs, t0, l, hp, hl, he⟩
  · exact absurd rfl ((seqPre_eq_iff.1 hp).inl_not_valid w)
  · obtain ⟨t0', hp'⟩ := (seqPre_eq_iff.1 hp).drop_preds
    have hout : Out.valid w = finishSeq k vid y l := congrArg Prod.fst he
    exact ⟨_, seqStep_some.2 (.inr ⟨y, xs, t0', l, seqPre_eq_iff.2 hp', hl, Prod.ext hout rfl⟩)⟩

theorem mapPre_iff (o : Oracle) (m : Mode) (vid : Nat) (ps aps : List Pred) (c : Option CoerceK)
    (x y : PyVal) (kvs : List (PyVal × PyVal)) (t : List Ev) :
    mapPre o m vid ps aps c x = .inr (y, kvs, t) ↔
      ¬ (m = .sync ∧ aps ≠ []) ∧
      ∃ t0 t1, gate o .dict .dict c x = .acc y t0 ∧ contPreds m ps aps y = ([], t1, none) ∧
        dictItems y = some kvs ∧ t = t0 ++ t1 :=
  mapPre_eq_iff.trans ContPre.inr_iff

/-- **adding a container predicate to a map validator** -/
theorem C18_add_map_predicate (o : Oracle) (m : Mode) (vid : Nat) (ps : List Pred) (p : Pred) (aps : List Pred)
    (c : Option CoerceK) (evk evv : Ev1) (x w : PyVal) (t : List Ev)
    (h : mapStep o m vid (ps ++ [p]) aps c evk evv x = some (.valid w, t)) :
    ∃ t', mapStep o m vid ps aps c evk evv x = some (.valid w, t') := by
  rcases mapStep_some.1 h with hp | ⟨y, kvs, t0, l, hp, hl, he⟩
  · exact absurd rfl ((mapPre_eq_iff.1 hp).inl_not_valid w)
  · obtain ⟨t0', hp'⟩ := (mapPre_eq_iff.1 hp).drop_preds
    have hout : Out.valid w = (mapFinish vid y t0' l).1 :=
      (congrArg Prod.fst he).trans (mapFinish_fst vid y t0 t0' l)
    exact ⟨_, mapStep_some.2 (.inr ⟨y, kvs, t0', l, mapPre_eq_iff.2 hp', hl, Prod.ext hout rfl⟩)⟩

/-- `strict` requires every key `lax` requires -/
inductive ReqLe : List Bool → List Bool → Prop
  | nil : ReqLe [] []
  | cons {a b as bs} : (a = true → b = true) → ReqLe as bs → ReqLe (a :: as) (b :: bs)

/-- a pass without key errors met no absent required key: it is a pass for the laxer requirements too -/
theorem RecL.relax {vid dv data evs keys strict r} (h : RecL vid dv data evs keys strict r) :
    ∀ {lax}, ReqLe lax strict → r.ks = [] → RecL vid dv data evs keys lax r := by
  induction h with
  | done h =>
    intro lax hle _
    rcases h with h | h | rfl
    · exact .done (.inl h)
    · exact .done (.inr (.inl h))
    · cases hle; exact .done (.inr (.inr rfl))
  | missing => exact fun _ hk => nomatch hk
  | absent hd _ ih =>
    intro lax hle hk
    obtain _ | @⟨a, _, _, _, hab, hrest⟩ := hle
    cases a
    · exact .absent hd (ih hrest hk)
    · cases hab rfl
  | raised hd hx => intro lax hle _; cases hle; exact .raised hd hx
  | valid hd hx _ ih => intro lax hle hk; cases hle with | cons _ hrest => exact .valid hd hx (ih hrest hk)
  | invalid => exact fun _ hk => nomatch hk

theorem recLoop_require (vid : Nat) (dv : PyVal) (data : List (PyVal × PyVal)) :
    ∀ (evs : List Ev1) (keys : List PyVal) (lax strict : List Bool), ReqLe lax strict →
      ∀ got errs t, recLoop vid dv data evs keys strict = some ⟨got, [], errs, t, none⟩ →
        recLoop vid dv data evs keys lax = some ⟨got, [], errs, t, none⟩ :=
  fun _ _ _ _ hle _ _ _ h => ((RecL.of_loop h).relax hle rfl).loop

/-- **making keys required**: whatever the stricter record validator accepts, the laxer one accepts,
    with the same payload and the same trace -/
theorem C18_require_key (o : Oracle) (m : Mode) (vid : Nat) (cfg : RecCfg) (strict : List Bool)
    (hle : ReqLe cfg.reqs strict) (evs : List Ev1) (x w : PyVal) (t : List Ev)
    (h : recordStep o m vid { cfg with reqs := strict } evs x = some (.valid w, t)) :
    recordStep o m vid cfg evs x = some (.valid w, t) := by
  -- nothing before or after the key loop reads `reqs`
  have hpre : recPre o m vid { cfg with reqs := strict } x = recPre o m vid cfg x := rfl
  have hfin : recFinish m vid { cfg with reqs := strict } = recFinish m vid cfg := rfl
  cases hp : recPre o m vid cfg x with
  | inl r => rw [C04_pre_first (hpre.trans hp)] at h; rw [C04_pre_first hp]; exact h
  | inr q =>
    obtain ⟨y, data, t0⟩ := q
    rw [recordStep_inr (hpre.trans hp), hfin] at h
    rw [recordStep_inr hp]
    obtain ⟨⟨got, ks, errs, t1, rr⟩, hl, hf⟩ := Option.map_eq_some_iff.1 h
    obtain ⟨rfl, rfl⟩ : rr = none ∧ ks = [] := recFinish_valid (congrArg Prod.fst hf)
    rw [recLoop_require vid y data evs cfg.keys cfg.reqs strict hle got errs t1 hl]
    exact congrArg some hf

/-- `DictValidatorAny({k: v})`, no whole-object check -/
def oneKeyCfg (k : PyVal) (failUnknown : Bool) : RecCfg :=
  { kind := .dictAny, keys := [k], reqs := [true], cls := default, fieldNames := [], defaults := [],
    intoId := 0, into := fun _ => .none, oc := none, aoc := none, failUnknown := failUnknown, coerce := none }

theorem oneKey_pre (o : Oracle) (m : Mode) (vid oid : Nat) (k x : PyVal) (fu : Bool) (hk : pyEq k k = true) :
    recPre o m vid (oneKeyCfg k fu) (.dict oid [(k, x)]) = .inr (.dict oid [(k, x)], [(k, x)], []) := by
  rw [C04_pre_iff]
  refine ⟨by simp [oneKeyCfg], by simp [recGate, oneKeyCfg, PyVal.ty], rfl, ?_⟩
  simp [oneKeyCfg, hasUnknownKey, memL, hk]

/-- `{k: x}` is accepted iff `x` is accepted by the child, with the child's payload under `k` … -/
theorem C18_singleton_record_valid (o : Oracle) (m : Mode) (vid oid : Nat) (k : PyVal) (fu : Bool)
    (hk : pyEq k k = true) (ev : Ev1) (x w : PyVal) (t : List Ev) (h : ev x = some (.valid w, t)) :
    recordStep o m vid (oneKeyCfg k fu) [ev] (.dict oid [(k, x)]) = some (.valid (.dict 0 [(k, w)]), t) := by
  simp only [recordStep, oneKey_pre o m vid oid k x fu hk]
  have hl : recLoop vid (.dict oid [(k, x)]) [(k, x)] [ev] (oneKeyCfg k fu).keys (oneKeyCfg k fu).reqs =
      some ⟨[some w], [], [], t ++ [], none⟩ := by
    simp [recLoop, oneKeyCfg, dictGet, hk, h]
  rw [hl]
  cases m <;> simp [recFinish, recBuild, oneKeyCfg, runObjCheck, runAObjCheck]

/-- … and rejected with the child's own error under `k` otherwise -/
theorem C18_singleton_record_invalid (o : Oracle) (m : Mode) (vid oid : Nat) (k : PyVal) (fu : Bool)
    (hk : pyEq k k = true) (ev : Ev1) (x : PyVal) (e : Inv) (t : List Ev) (h : ev x = some (.invalid e, t)) :
    recordStep o m vid (oneKeyCfg k fu) [ev] (.dict oid [(k, x)]) =
      some (.invalid (.mk (.keys [k]) (.dict oid [(k, x)]) vid [e]), t) := by
  simp only [recordStep, oneKey_pre o m vid oid k x fu hk]
  have hl : recLoop vid (.dict oid [(k, x)]) [(k, x)] [ev] (oneKeyCfg k fu).keys (oneKeyCfg k fu).reqs =
      some ⟨[none], [k], [e], t ++ [], none⟩ := by
    simp [recLoop, oneKeyCfg, dictGet, hk, h]
  rw [hl]
  simp [recFinish]

example : ReqLe [false, true] [true, true] := .cons (by simp) (.cons (by simp) .nil)

example : recordStep default .sync 1 (oneKeyCfg (.str [97]) true) [fun x => some (.valid x, [])]
    (.dict 7 [(.str [97], .int 3)]) = some (.valid (.dict 0 [(.str [97], .int 3)]), []) :=
  C18_singleton_record_valid default .sync 1 7 (.str [97]) true (by decide) _ (.int 3) (.int 3) [] rfl

end Koda
