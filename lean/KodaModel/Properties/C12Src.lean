/-
  C12, tied to the source: `to_serializable_errs` as it stands in koda_validate/serialization/errors.py,
  translated on every run (`Generated/RenderSrc.lean`), interpreted (`KodaModel/PyRender.lean`), is the model's
  `render` — for every error node, every assignment of validator classes, every `next_level`.  And
  `pred_to_err_message` has an arm for every predicate class the library defines (`Generated/PredSrc.lean`),
  its last arm raising `TypeError`.
-/
import KodaModel.PyRender
import KodaModel.Properties.C12
import KodaModel.Generated.RenderSrc
import KodaModel.Generated.PredSrc

namespace Koda

/-- the four scalar validator classes the coercion arm names first do not coerce to a list / tuple (their
    coercers' destination is their own scalar type) -/
def RWF (cfg : RCfg) : Inv → Prop
  | .mk (.coercion _ d) _ vid _ =>
    (cfg.vcls vid = .uuid ∨ cfg.vcls vid = .decimal ∨ cfg.vcls vid = .datetime ∨ cfg.vcls vid = .date) →
      d ≠ .list ∧ d ≠ .tuple
  | _ => True

theorem src_render (cfg : RCfg) (recordVids : List Nat)
    (hrec : ∀ vid, recordVids.contains vid = (cfg.vcls vid == .dataclass || cfg.vcls vid == .namedtuple))
    (e : Inv) (hwf : RWF cfg e) :
    runRender cfg Src.toSerializableErrs e = render cfg.userPids recordVids cfg.next e := by
  obtain ⟨k, v, vid, ch⟩ := e
  cases k with
  | type t =>
    dsimp only [runRender, Src.toSerializableErrs, RStmt.execL, RStmt.exec, RCond.eval, RErr.matches, RExp.eval, render,
      renderLeaf]
    cases t == Ty.dict <;> cases t == Ty.list <;> cases t == Ty.tuple <;> rfl
  | coercion compat dest =>
    dsimp only [runRender, Src.toSerializableErrs, RStmt.execL, RStmt.exec, RCond.eval, RErr.matches, RExp.eval, render,
      renderLeaf]
    rw [hrec vid]
    rcases hv : cfg.vcls vid with _ | _ | _ | _ | _ | _ | nm
    case dataclass | namedtuple | other => cases dest == Ty.list <;> cases dest == Ty.tuple <;> rfl
    -- the four scalar classes answer before the destination is looked at
    all_goals
      obtain ⟨h1, h2⟩ := hwf (by simp [hv])
      rw [beq_false_of_ne h1, beq_false_of_ne h2]
      rfl
  | container =>
    match ch with
    | [] => rfl
    | [c] => rfl
    | _ :: _ :: _ => rfl
  | _ => rfl

/-! ### the default callback: the function calling itself -/

def RWFk (vcls : Nat → RVld) : ErrK → Nat → Prop
  | .coercion _ d, vid =>
    (vcls vid = .uuid ∨ vcls vid = .decimal ∨ vcls vid = .datetime ∨ vcls vid = .date) → d ≠ .list ∧ d ≠ .tuple
  | _, _ => True

mutual
def RWFTree (vcls : Nat → RVld) : Inv → Prop
  | .mk k _ vid ch => RWFk vcls k vid ∧ RWFTreeL vcls ch
def RWFTreeL (vcls : Nat → RVld) : List Inv → Prop
  | [] => True
  | e :: es => RWFTree vcls e ∧ RWFTreeL vcls es
end

theorem src_render_step (up recordVids : List Nat) (vcls : Nat → RVld) (next : Inv → Except Exn Ser)
    (hrec : ∀ vid, recordVids.contains vid = (vcls vid == .dataclass || vcls vid == .namedtuple))
    (k : ErrK) (v : PyVal) (vid : Nat) (ch : List Inv) (hwf : RWFk vcls k vid)
    (h : mapME next ch = renderFullL up recordVids ch) :
    runRenderM up vcls next Src.toSerializableErrs (.mk k v vid ch) = renderFull up recordVids (.mk k v vid ch) := by
  cases k with
  | type t =>
    dsimp only [runRenderM, Src.toSerializableErrs, RStmt.execLM, RStmt.execM, RCond.eval, RErr.matches, RExp.evalM,
      renderFull, renderLeaf]
    cases t == Ty.dict <;> cases t == Ty.list <;> cases t == Ty.tuple <;> rfl
  | coercion compat dest =>
    dsimp only [runRenderM, Src.toSerializableErrs, RStmt.execLM, RStmt.execM, RCond.eval, RErr.matches, RExp.evalM,
      renderFull, renderLeaf]
    rw [hrec vid]
    rcases hv : vcls vid with _ | _ | _ | _ | _ | _ | nm
    case dataclass | namedtuple | other => cases dest == Ty.list <;> cases dest == Ty.tuple <;> rfl
    all_goals
      obtain ⟨h1, h2⟩ := hwf (by simp [hv])
      rw [beq_false_of_ne h1, beq_false_of_ne h2]
      rfl
  -- a node with children: both sides bind the children's renderings to the same continuation
  | index _ | keys _ | map _ _ | set | union | container => exact congrArg (· >>= _) h
  | _ => rfl

mutual
/-- **the translated function with its default callback is `renderFull`**: for every error tree there is a recursion
    depth from which on the translated `to_serializable_errs`, calling itself on the children, returns (or raises)
    exactly what the model's `renderFull` does -/
theorem src_render_full (up recordVids : List Nat) (vcls : Nat → RVld)
    (hrec : ∀ vid, recordVids.contains vid = (vcls vid == .dataclass || vcls vid == .namedtuple)) :
    ∀ e, RWFTree vcls e → ∃ n0, ∀ n, n0 ≤ n →
      runRenderFuel up vcls Src.toSerializableErrs n e = renderFull up recordVids e
  | .mk k v vid ch, hwf => by
    simp only [RWFTree] at hwf
    obtain ⟨n0, hn0⟩ := src_render_fullL up recordVids vcls hrec ch hwf.2
    refine ⟨n0 + 1, ?_⟩
    intro n hn
    obtain ⟨m, rfl⟩ : ∃ m, n = m + 1 := ⟨n - 1, by omega⟩
    simp only [runRenderFuel]
    exact src_render_step up recordVids vcls _ hrec k v vid ch hwf.1 (hn0 m (by omega))
theorem src_render_fullL (up recordVids : List Nat) (vcls : Nat → RVld)
    (hrec : ∀ vid, recordVids.contains vid = (vcls vid == .dataclass || vcls vid == .namedtuple)) :
    ∀ es, RWFTreeL vcls es → ∃ n0, ∀ n, n0 ≤ n →
      mapME (runRenderFuel up vcls Src.toSerializableErrs n) es = renderFullL up recordVids es
  | [], _ => ⟨0, fun _ _ => rfl⟩
  | e :: es, hwf => by
    simp only [RWFTreeL] at hwf
    obtain ⟨a, ha⟩ := src_render_full up recordVids vcls hrec e hwf.1
    obtain ⟨b, hb⟩ := src_render_fullL up recordVids vcls hrec es hwf.2
    refine ⟨max a b, ?_⟩
    intro n hn
    simp only [mapME, renderFullL, ha n (by omega), hb n (by omega)]
end

/-- **C12 at the source**: on an error tree built from the library's own error types and predicates (`renderable`),
    the translated `to_serializable_errs` with its default callback returns a rendering - it does not raise -/
theorem C12_src_total (up recordVids : List Nat) (vcls : Nat → RVld)
    (hrec : ∀ vid, recordVids.contains vid = (vcls vid == .dataclass || vcls vid == .namedtuple))
    (e : Inv) (hwf : RWFTree vcls e) (hr : renderable up e = true) :
    ∃ n0 s, ∀ n, n0 ≤ n → runRenderFuel up vcls Src.toSerializableErrs n e = .ok s := by
  obtain ⟨n0, h⟩ := src_render_full up recordVids vcls hrec e hwf
  obtain ⟨s, hs⟩ := C12_total up recordVids e hr
  exact ⟨n0, s, fun n hn => by rw [h n hn, hs]⟩

/-- non-vacuity: a type error under a key error under an index error, recursion depth 3 -/
example : runRenderFuel [] (fun v => if v = 7 then .dataclass else .other "ListValidator") Src.toSerializableErrs 3
    (.mk (.index [2]) .none 1 [.mk (.keys [.none]) .none 7 [.mk (.type .int) .none 9 []]]) =
    .ok (.list [.list [.num 2, .dict [("k", .list [.msg])]]]) := by rfl

/-- every predicate class the library defines has an arm in `pred_to_err_message`; anything else is a `TypeError` -/
theorem src_pred_messages_cover :
    (∀ c ∈ Src.classes, c.2.1 = "Predicate" → c.1 ∈ Src.predToErrMessage.handled) ∧
      Src.predToErrMessage.elseRaisesTypeError = true := by decide +kernel

/-- and no arm is for something else than a predicate class (no unsupported arm) -/
theorem src_pred_messages_only :
    ∀ h ∈ Src.predToErrMessage.handled, h ∈ Src.classes.map (·.1) := by decide +kernel

/-- the argument-failure message renderer of signature.py (`_safe_repr`, `_trunc_str`, `_get_arg_fail_message`,
    `_get_args_fail_msg`, the two exception constructors) is outside the translated subset (string building): its text
    is pinned, statement by statement; the model `messageLines` stays tied by the correspondence -/
theorem src_message_renderer_pinned : Src.messagePins = ["_safe_repr(obj: Any)",
    "_safe_repr: try:\n    return repr(obj)\nexcept Exception:\n    return f'<{type(obj).__name__} instance>'",
    "_trunc_str(s: str, max_chars: int)",
    "_trunc_str: ellip = '...'",
    "_trunc_str: ellip_len = len(ellip)",
    "_trunc_str: if max_chars < ellip_len:\n    raise AssertionError(f'max_chars must be greater than or equal to {ellip_len}')",
    "_trunc_str: return s[:max_chars - ellip_len] + ellip if len(s) > max_chars else s",
    "_get_arg_fail_message(invalid: Invalid, indent: str='', prefix: str='')",
    "_get_arg_fail_message: err_type = invalid.err_type",
    "_get_arg_fail_message: next_indent = f'    {indent}'",
    "_get_arg_fail_message: ret = indent + prefix",
    "_get_arg_fail_message: if isinstance(err_type, TypeErr):\n    ret += f'expected {err_type.expected_type}'\nelif isinstance(err_type, PredicateErrs):\n    ret += f'{err_type.__class__.__name__}\\n'\n    ret += '\\n'.join([f'{next_indent}{repr(p)}' for p in err_type.predicates])\nelif isinstance(err_type, CoercionErr):\n    ret += f'expected any of {sorted(err_type.compatible_types, key=lambda t: repr(t))} to coerce to {repr(err_type.dest_type)}'\nelif isinstance(err_type, ContainerErr):\n    return _get_arg_fail_message(err_type.child, prefix)\nelif isinstance(err_type, MissingKeyErr):\n    ret += 'key missing'\nelif isinstance(err_type, UnionErrs):\n    variant_errors = [_get_arg_fail_message(variant, next_indent, prefix=f'variant {i + 1}: ') for i, variant in enumerate(err_type.variants)]\n    ret += '\\n'.join([err_type.__class__.__name__] + variant_errors)\nelif isinstance(err_type, KeyErrs):\n    ret += f'{err_type.__class__.__name__}\\n'\n    ret += '\\n'.join([_get_arg_fail_message(inv, next_indent, prefix=f'{repr(k)}: ') for k, inv in err_type.keys.items()])\nelif isinstance(err_type, ExtraKeysErr):\n    ret += f'{err_type.__class__.__name__}\\n'\n    ret += f'{next_indent}only expected keys {sorted(err_type.expected_keys, key=repr)}'\nelif isinstance(err_type, IndexErrs):\n    ret += f'{err_type.__class__.__name__}\\n'\n    ret += '\\n'.join([_get_arg_fail_message(inv, next_indent, prefix=f'{idx}: ') for idx, inv in err_type.indexes.items()])\nelif isinstance(err_type, MapErr):\n    ret += 'MapErr'\n    for key, key_val_errs in err_type.keys.items():\n        if key_val_errs.key:\n            next_ = _get_arg_fail_message(key_val_errs.key, next_indent, prefix=f'{_safe_repr(key)} (key): ')\n            ret += f'\\n{next_}'\n        if key_val_errs.val:\n            next_ = _get_arg_fail_message(key_val_errs.val, next_indent, prefix=f'{_safe_repr(key)} (val): ')\n            ret += f'\\n{next_}'\nelif isinstance(err_type, SetErrs):\n    ret += f'{err_type.__class__.__name__}\\n'\n    ret += '\\n'.join([f'{_get_arg_fail_message(e, next_indent)} :: {_trunc_str(_safe_repr(e.value), 30)}' for e in err_type.item_errs])",
    "_get_arg_fail_message: return ret",
    "_get_args_fail_msg(errs: Dict[str, Invalid])",
    "_get_args_fail_msg: messages = [f'{k}={_trunc_str(_safe_repr(v.value), 60)}\\n{_get_arg_fail_message(v, '    ')}' for k, v in errs.items()]",
    "_get_args_fail_msg: return '\\n'.join(messages)",
    "InvalidArgsError.__init__: super().__init__(_INVALID_ARGS_MESSAGE_HEADER + _get_args_fail_msg(errs)) ; self.errs = errs",
    "InvalidReturnError.__init__: super().__init__(_INVALID_RETURN_MESSAGE_HEADER + _get_arg_fail_message(err)) ; self.err = err"] := rfl

/-- non-vacuity: a record validator's coercion failure under a list index renders as the container message at that index -/
example :
    runRender { userPids := [], vcls := fun v => if v = 7 then .dataclass else .other "ListValidator", next := fun _ => .mark }
      Src.toSerializableErrs (.mk (.index [2]) .none 1 [.mk (.coercion [.dict] (.cls default)) .none 7 []]) =
    .ok (.list [.list [.num 2, .mark]]) := rfl

end Koda
