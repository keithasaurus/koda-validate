/-
  C02 — Scalar validators: exact type, then coercion/processors, then all predicates.
-/
import KodaModel.Lemmas.Mono
import KodaModel.Lemmas.SrcLoops

namespace Koda

/-- the failing predicates of a list on a value, in declaration order -/
def failing (ps : List Pred) (x : PyVal) : List Nat :=
  (ps.filter (fun p => match p.k.call x with | .ok false => true | _ => false)).map (·.pid)

/-- the source theorems collect the failing predicates themselves, `failingPreds` -/
theorem failing_eq (ps : List Pred) (x : PyVal) : failing ps x = (failingPreds ps x).map (·.pid) := rfl

/-- no predicate of the list raises on `x` (typed use of predicates) -/
def NoRaise (ps : List Pred) (x : PyVal) : Prop := ∀ p ∈ ps, ∃ b, p.k.call x = .ok b

theorem runPreds_spec (ps : List Pred) (x : PyVal) (h : NoRaise ps x) :
    (runPreds ps x).1 = failing ps x ∧ (runPreds ps x).2.2 = none := by
  induction ps with
  | nil => exact ⟨rfl, rfl⟩
  | cons p ps ih =>
    obtain ⟨b, hb⟩ := h p List.mem_cons_self
    obtain ⟨ih1, ih2⟩ := ih fun q hq => h q (List.mem_cons_of_mem _ hq)
    unfold failing at ih1 ⊢
    rw [runPreds, List.filter_cons]
    simp only [hb]
    cases b
    · exact ⟨congrArg (p.pid :: ·) ih1, ih2⟩
    · exact ⟨ih1, ih2⟩

theorem runAPreds_eq (ps : List Pred) (x : PyVal) :
    (runAPreds ps x).1 = (runPreds ps x).1 ∧ (runAPreds ps x).2.2 = (runPreds ps x).2.2 := by
  induction ps with
  | nil => exact ⟨rfl, rfl⟩
  | cons p ps ih =>
    rw [runAPreds, runPreds]
    cases p.k.call x with
    | error e => exact ⟨rfl, rfl⟩
    | ok b => exact ⟨by simp only [ih.1], ih.2⟩

theorem runAPreds_spec (ps : List Pred) (x : PyVal) (h : NoRaise ps x) :
    (runAPreds ps x).1 = failing ps x ∧ (runAPreds ps x).2.2 = none := by
  rw [(runAPreds_eq ps x).1, (runAPreds_eq ps x).2]
  exact runPreds_spec ps x h

/-- every async predicate is awaited, in order, whatever the earlier ones returned -/
theorem runAPreds_all_awaited (ps : List Pred) (x : PyVal) (h : NoRaise ps x) :
    (runAPreds ps x).2.1 = ps.map (fun p => Ev.apred p.pid) := by
  induction ps with
  | nil => simp [runAPreds]
  | cons p ps ih =>
    obtain ⟨b, hb⟩ := h p (by simp)
    simp [runAPreds, hb, ih (fun q hq => h q (by simp [hq]))]

/-- sync failures first, then async failures; nothing skipped -/
theorem contPreds_spec (m : Mode) (ps aps : List Pred) (x : PyVal) (h : NoRaise ps x) (ha : NoRaise aps x) :
    (contPreds m ps aps x).1 = failing ps x ++ (if m = .async then failing aps x else []) ∧
    (contPreds m ps aps x).2.2 = none := by
  obtain ⟨h1, h2⟩ := runPreds_spec ps x h
  obtain ⟨h3, h4⟩ := runAPreds_spec aps x ha
  cases m <;> simp [contPreds, h1, h2, h3, h4]

theorem runPreds_pass_prefix (ps qs : List Pred) (x : PyVal) :
    (runPreds (ps ++ qs) x).2.2 = none → (runPreds (ps ++ qs) x).1 = [] →
    (runPreds ps x).2.2 = none ∧ (runPreds ps x).1 = [] := by
  induction ps with
  | nil => exact fun _ _ => ⟨rfl, rfl⟩
  | cons p ps ih =>
    simp only [List.cons_append, runPreds]
    cases p.k.call x with
    | error e => exact fun h => nomatch h
    | ok b =>
      cases b with
      | true => exact ih
      | false => exact fun _ h => nomatch h

theorem contPreds_pass (m : Mode) (ps aps : List Pred) (y : PyVal) :
    ((contPreds m ps aps y).2.2 = none ∧ (contPreds m ps aps y).1 = []) ↔
      ((runPreds ps y).2.2 = none ∧ (runPreds ps y).1 = []) ∧
      (m = .async → (runAPreds aps y).2.2 = none ∧ (runAPreds aps y).1 = []) := by
  unfold contPreds
  generalize runPreds ps y = r
  obtain ⟨f, t, _ | e⟩ := r
  · cases m
    · simp
    · simpa using and_left_comm
  · simp

theorem contPreds_pass_prefix {m : Mode} {ps qs aps : List Pred} {y : PyVal} {t : List Ev}
    (h : contPreds m (ps ++ qs) aps y = ([], t, none)) : ∃ t', contPreds m ps aps y = ([], t', none) := by
  obtain ⟨h1, h2⟩ := (contPreds_pass m (ps ++ qs) aps y).1 ⟨by rw [h], by rw [h]⟩
  obtain ⟨h3, h4⟩ := (contPreds_pass m ps aps y).2 ⟨runPreds_pass_prefix ps qs y h1.1 h1.2, h2⟩
  exact ⟨_, Prod.ext h4 (Prod.ext rfl h3)⟩

/-- processors are applied in declaration order -/
theorem runProcs_spec (pre : List Proc) (x : PyVal) (h : ∀ p ∈ pre, ∀ y, ∃ z, p.k.call y = .ok z) :
    (runProcs pre x).1 = .ok (pre.foldl (fun acc p => match p.k.call acc with | .ok z => z | .error _ => acc) x) := by
  induction pre generalizing x with
  | nil => rfl
  | cons p ps ih =>
    obtain ⟨z, hz⟩ := h p (by simp) x
    simp [runProcs, hz, ih z (fun q hq => h q (by simp [hq]))]

/-- without a coercer the gate is the **exact** type -/
theorem C02_gate_exact (o : Oracle) (tg : Ty) (x : PyVal) :
    (gate o tg tg none x = .acc x [] ↔ x.ty = tg) ∧
    (x.ty ≠ tg → gate o tg tg none x = .rej (.type tg) []) := by
  simp only [gate]
  by_cases h : x.ty = tg <;> simp [h]

/-- bool is not int, int is not float, a subclass instance is not its base -/
theorem C02_lookalikes (c : ClassId) :
    (PyVal.bool true).ty ≠ .int ∧ (PyVal.int 1).ty ≠ .float ∧ (PyVal.sub c (.int 1)).ty ≠ .int ∧
    (PyVal.sub c (.str [])).ty ≠ .str := by
  simp [PyVal.ty]

/-- **acceptance**: the sync guard does not fire, the gate yields `y`, the processors (in order)
    yield `z`, every sync predicate and — in async mode — every async predicate holds on `z`;
    the payload is `z`. -/
theorem C02_accept_iff (o : Oracle) (m : Mode) (vid : Nat) (tg : Ty) (c : Option CoerceK)
    (pre : List Proc) (ps aps : List Pred) (x w : PyVal) (t : List Ev) :
    scalarStep o m vid tg c pre ps aps x = (.valid w, t) ↔
      ¬ (m = .sync ∧ aps ≠ []) ∧
      ∃ y t0 t1, gate o tg tg c x = .acc y t0 ∧ runProcs pre y = (.ok w, t1) ∧
        (contPreds m ps aps w).1 = [] ∧ (contPreds m ps aps w).2.2 = none ∧
        t = t0 ++ t1 ++ (contPreds m ps aps w).2.1 := by
  unfold scalarStep
  constructor
  · intro h
    split at h
    · cases h
    · rename_i hg
      refine ⟨hg, ?_⟩
      split at h
      · cases h
      · cases h
      · rename_i y t0 hgate
        split at h
        · cases h
        · rename_i z t1 hprocs
          unfold finishPreds at h
          split at h
          · cases h
          · rename_i hnone
            split at h
            · rename_i hemp
              cases h
              exact ⟨y, t0, t1, hgate, hprocs, List.isEmpty_iff.1 hemp, hnone, rfl⟩
            · cases h
  · rintro ⟨hg, y, t0, t1, hgate, hprocs, hemp, hnone, rfl⟩
    simp only [if_neg hg, hgate, hprocs, finishPreds, hnone, hemp, List.isEmpty_nil, if_true]

/-- **rejection**: a type/coercion error carrying the *original* value, or a predicate error listing
    the failing predicates (sync before async, `contPreds_spec`) carrying the *processed* value. -/
theorem C02_reject (o : Oracle) (m : Mode) (vid : Nat) (tg : Ty) (c : Option CoerceK)
    (pre : List Proc) (ps aps : List Pred) (x : PyVal) (e : Inv) (t : List Ev)
    (h : scalarStep o m vid tg c pre ps aps x = (.invalid e, t)) :
    (∃ k t0, gate o tg tg c x = .rej k t0 ∧ e = .mk k x vid [] ∧ t = t0) ∨
    (∃ y t0 z t1, gate o tg tg c x = .acc y t0 ∧ runProcs pre y = (.ok z, t1) ∧
      (contPreds m ps aps z).1 ≠ [] ∧ e = .mk (.preds (contPreds m ps aps z).1) z vid [] ∧
      t = t0 ++ t1 ++ (contPreds m ps aps z).2.1) := by
  unfold scalarStep at h
  split at h
  · cases h
  · split at h
    · cases h
    · rename_i k t0 hgate
      cases h
      exact .inl ⟨k, _, hgate, rfl, rfl⟩
    · rename_i y t0 hgate
      split at h
      · cases h
      · rename_i z t1 hprocs
        unfold finishPreds at h
        split at h
        · cases h
        · split at h
          · cases h
          · rename_i hne
            cases h
            exact .inr ⟨y, t0, z, t1, hgate, hprocs, fun he => hne (by rw [he]; rfl), rfl, rfl⟩

/-- the rejection kinds of the gate: `TypeErr(target)` without a coercer, `CoercionErr` with the
    coercer's declared compatible types otherwise -/
theorem C02_gate_rej_kinds (o : Oracle) (tg : Ty) (c : Option CoerceK) (x : PyVal) (k : ErrK) (t : List Ev)
    (h : gate o tg tg c x = .rej k t) :
    (c = none ∧ k = .type tg) ∨ (∃ compat, k = .coercion compat tg) := by
  cases c with
  | some c => exact .inr ⟨_, applyCoerce_rej_kind h⟩
  | none =>
    simp only [gate] at h
    split at h
    · cases h
    · cases h; exact .inl ⟨rfl, rfl⟩

/-- the sync entry point refuses to run when async predicates are configured (and only then) -/
theorem C02_sync_guard (o : Oracle) (vid : Nat) (tg : Ty) (c : Option CoerceK) (pre : List Proc)
    (ps aps : List Pred) (x : PyVal) (h : aps ≠ []) :
    scalarStep o .sync vid tg c pre ps aps x = (.raised .assertion, []) := by
  simp [scalarStep, h]

/-- equality validator: exact type of `match` first, then processors, then `==` -/
theorem C02_equals_accept_iff (vid pid : Nat) (mt : PyVal) (pre : List Proc) (x w : PyVal) (t : List Ev) :
    equalsStep vid mt pre pid x = (.valid w, t) ↔
      mt.ty = x.ty ∧ runProcs pre x = (.ok w, t) ∧ pyEqX w mt = .ok true := by
  unfold equalsStep
  constructor
  · intro h
    split at h
    · rename_i hty
      split at h
      · cases h
      · rename_i z t1 hp
        split at h
        · cases h
        · rename_i heq; cases h; exact ⟨hty, hp, heq⟩
        · cases h
    · cases h
  · rintro ⟨hty, hp, heq⟩
    simp only [if_pos hty, hp, heq]

theorem C02_equals_type_err (vid pid : Nat) (mt : PyVal) (pre : List Proc) (x : PyVal) (h : mt.ty ≠ x.ty) :
    equalsStep vid mt pre pid x = (.invalid (.mk (.type mt.ty) x vid []), []) := by
  simp [equalsStep, h]

theorem C02_none (o : Oracle) (vid : Nat) (x : PyVal) :
    (noneStep o vid none x = (.valid .none, []) ↔ x = .none) ∧
    (x ≠ .none → noneStep o vid none x = (.invalid (.mk (.type .none) x vid []), [])) := by
  -- the catch-all arm of the `match`: `simp` discharges its side condition with `hx`
  have hne : x ≠ .none → noneStep o vid none x = (.invalid (.mk (.type .none) x vid []), []) :=
    fun hx => by simp only [noneStep]
  refine ⟨⟨fun h => Classical.byContradiction fun hx => ?_, fun h => by rw [h]; rfl⟩, hne⟩
  rw [hne hx] at h
  cases h

/-- `StringValidator(MinLength(2), MaxLength(3), preprocessors=[strip])(" ab ")` is `Valid("ab")` -/
example : scalarStep default .sync 1 .str none [⟨5, .strip⟩] [⟨6, .minLength 2⟩, ⟨7, .maxLength 3⟩] []
    (.str [32, 97, 98, 32]) = (.valid (.str [97, 98]), []) := by rfl

/-- both failing predicates are listed, in order -/
example : (scalarStep default .sync 1 .int none [] [⟨6, .min (.int 5) false⟩, ⟨7, .multipleOf (.int 2)⟩] []
    (.int 3)).1 = .invalid (.mk (.preds [6, 7]) (.int 3) 1 []) := by rfl

end Koda
