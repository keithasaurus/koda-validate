/-
  C13 — Validation is pure: no input mutation, no cross-call or cross-task interference.
-/
import KodaModel.Sched
import KodaModel.Eval
import KodaModel.Generated.Effects

namespace Koda

variable {σ S R : Type}

theorem TaskSys.solo_resume (sys : TaskSys σ S R) (st : σ) (t : TState S R) (n : Nat) :
    sys.solo st (sys.resume st t) n = sys.resume st (sys.solo st t n) := by
  induction n generalizing t with
  | zero => rfl
  | succ n ih => simp only [TaskSys.solo]; rw [ih]

/-- **non-interference for every schedule**: after *any* interleaving, each task is exactly where
    it would be had it run alone for as many resumptions as the schedule gave it; in particular its
    result is its solo result.  The shared store is an argument that no step can change. -/
theorem Sched.noninterference (sys : TaskSys σ S R) (st : σ) :
    ∀ (sched : List Nat) (ts : List (TState S R)) (i : Nat),
      (sys.runSched st ts sched)[i]? = (ts[i]?).map (fun t => sys.solo st t (sched.count i)) := by
  intro sched
  induction sched with
  | nil => intro ts i; exact Option.map_id'.symm
  | cons j rest ih =>
    intro ts i
    rw [TaskSys.runSched]
    by_cases hij : j = i
    · subst hij
      cases hj : ts[j]? with
      | none => exact (ih ts j).trans (by rw [hj]; rfl)
      | some tj =>
        refine (ih _ j).trans ?_
        rw [List.getElem?_set_self (List.getElem?_eq_some_iff.1 hj).1, List.count_cons_self]
        rfl
    · have hc : (j :: rest).count i = rest.count i := List.count_cons_of_ne hij
      rw [hc]
      cases hj : ts[j]? with
      | none => exact ih ts i
      | some tj => exact (ih _ i).trans (by rw [List.getElem?_set_ne hij])

/-- a task that finishes alone within `n` resumptions finishes with the same result under every
    schedule that resumes it at least `n` times -/
theorem Sched.same_result (sys : TaskSys σ S R) (st : σ) (ts : List (TState S R)) (sched : List Nat) (i : Nat)
    (t : TState S R) (r : R) (n : Nat) (ht : ts[i]? = some t) (hsolo : sys.solo st t n = .done r)
    (hn : n ≤ sched.count i) : (sys.runSched st ts sched)[i]? = some (.done r) := by
  rw [Sched.noninterference, ht]
  simp only [Option.map_some, Option.some.injEq]
  -- more resumptions of a finished task change nothing
  have key : ∀ k, sys.solo st t (n + k) = .done r := by
    intro k
    induction k with
    | zero => exact hsolo
    | succ k ih => exact (sys.solo_resume st t (n + k)).trans (by rw [ih]; rfl)
  obtain ⟨k, hk⟩ := Nat.exists_eq_add_of_le hn
  rw [hk]; exact key k

/-- **history independence**: `run` is a function of (oracle, environment, mode, fuel, validator,
    input) and of nothing else — there is no state it could carry from one call to the next -/
theorem C13_history_independent (o : Oracle) (env : Nat → V) (m : Mode) (n : Nat) (v : V) (x : PyVal)
    (history : List (V × PyVal)) :
    (history.map (fun h => run o env m n h.1 h.2), run o env m n v x).2 = run o env m n v x := rfl

/-- **write confinement, re-checked against `/repo`'s source on every run**: every heap write the
    AST of `koda_validate` performs on a validation path targets a local that is bound only to fresh
    allocations (the table is regenerated from the source by harness/effects.py) -/
theorem Effects.confined : Generated.effects.all (fun e => e.target == "fresh-local") = true := by
  decide

end Koda
