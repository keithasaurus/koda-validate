/-
  C08 / C09 — `validate_signature`: the body runs iff every checked supplied argument is accepted;
  otherwise InvalidArgsError keyed by exactly the failing names; the body receives the payloads of the
  checked arguments and the caller's own values for the others; the return value is checked, never
  replaced.

  The theorems are about `wrapCall` for an arbitrary validator evaluator `ev` (any fuel, any
  environment), an arbitrary body and an arbitrary call; `CleanCall` says that no validator raised or ran
  out of fuel on this call (C01's business), which is the situation both properties describe.
-/
import KodaModel.Signature

namespace Koda

def slots (s : SigM) (c : Call) : List Slot := posSlots s c.args ++ kwSlots s c.kwargs

def SlotRes.isPass : SlotRes → Bool
  | .pass _ => true
  | _ => false

def SlotRes.isFail : SlotRes → Bool
  | .fail => true
  | _ => false

/-- every validator that ran on this call returned Valid or Invalid -/
def CleanCall (ev : V → PyVal → Res) (s : SigM) (c : Call) : Prop :=
  ∀ sl ∈ slots s c, (checkSlot ev sl).isPass = true ∨ (checkSlot ev sl).isFail = true

/-- what a slot delivers when it passes -/
def delivered (ev : V → PyVal → Res) (sl : Slot) : PyVal :=
  match checkSlot ev sl with
  | .pass w => w
  | _ => sl.x

theorem SlotRes.clean {r : SlotRes} (h : r.isPass = true ∨ r.isFail = true) :
    r.raisedOf = none ∧ r.isFuel = false := by
  cases r <;> first | exact ⟨rfl, rfl⟩ | simp [SlotRes.isPass, SlotRes.isFail] at h

theorem failKey_eq_some (sl : Slot) (r : SlotRes) (k : String) :
    failKey (sl, r) = some k ↔ sl.key = k ∧ r = .fail := by
  cases r <;> simp [failKey]

theorem checkSlot_of_pass {ev : V → PyVal → Res} {sl : Slot} (h : (checkSlot ev sl).isPass = true) :
    checkSlot ev sl = .pass (delivered ev sl) := by
  unfold delivered
  cases hc : checkSlot ev sl <;> first | rfl | simp [hc, SlotRes.isPass] at h

theorem filterMap_zip_map {α β γ} (g : α × β → Option γ) (f : α → β) (l : List α) :
    (l.zip (l.map f)).filterMap g = l.filterMap fun a => g (a, f a) := by
  induction l with
  | nil => rfl
  | cons a l ih => simp only [List.map_cons, List.zip_cons_cons, List.filterMap_cons, ih]

theorem filterMap_eq_map_of {α β} {f : α → Option β} {g : α → β} {l : List α}
    (h : ∀ a ∈ l, f a = some (g a)) : l.filterMap f = l.map g := by
  induction l with
  | nil => rfl
  | cons a l ih =>
    rw [List.filterMap_cons, h a List.mem_cons_self, ih fun b hb => h b (List.mem_cons_of_mem _ hb)]; rfl

def failingKeys (ev : V → PyVal → Res) (sls : List Slot) : List String :=
  sls.filterMap fun sl => failKey (sl, checkSlot ev sl)

theorem mem_failingKeys (ev : V → PyVal → Res) (sls : List Slot) (k : String) :
    k ∈ failingKeys ev sls ↔ ∃ sl ∈ sls, sl.key = k ∧ checkSlot ev sl = .fail := by
  simp only [failingKeys, List.mem_filterMap, failKey_eq_some]

theorem mem_dedupS (l : List String) (k : String) : k ∈ dedupS l ↔ k ∈ l := by
  induction l with
  | nil => simp [dedupS]
  | cons a as ih =>
    simp only [dedupS]
    split
    · rename_i h
      simp only [List.contains_iff_mem] at h
      constructor
      · intro hk; exact List.mem_cons_of_mem _ (ih.1 hk)
      · intro hk
        rcases List.mem_cons.1 hk with rfl | hk
        · exact h
        · exact ih.2 hk
    · simp [ih]

/-- when no validator raises or runs out of fuel, the call is decided by the failing keys alone -/
theorem wrapCall_clean (ev : V → PyVal → Res) (s : SigM) (body : List PyVal → List (String × PyVal) → BodyRes)
    (c : Call) (hc : CleanCall ev s c) :
    wrapCall ev s body c =
      if failingKeys ev (slots s c) = [] then
        finishCall ev s body ((posSlots s c.args).filterMap fun sl => (checkSlot ev sl).passVal)
          ((kwSlots s c.kwargs).filterMap fun sl => passKw (sl, checkSlot ev sl))
      else (.invalidArgs (dedupS (failingKeys ev (slots s c)).reverse).reverse, none) := by
  have hall : ∀ r ∈ (slots s c).map (checkSlot ev), r.raisedOf = none ∧ r.isFuel = false := by
    intro r hr
    obtain ⟨sl, hsl, rfl⟩ := List.mem_map.1 hr
    exact SlotRes.clean (hc sl hsl)
  unfold wrapCall
  dsimp only
  rw [← List.map_append, ← slots, List.findSome?_eq_none_iff.2 fun r hr => (hall r hr).1,
    List.any_eq_false.2 fun r hr => by simp [(hall r hr).2], filterMap_zip_map, ← failingKeys,
    filterMap_zip_map, List.filterMap_map]
  cases failingKeys ev (slots s c) <;> rfl

/-- the body does not run and InvalidArgsError lists exactly the names of the failing arguments
    (the keyword itself for a `**kwargs` entry, the parameter's name otherwise) -/
theorem C08_invalid_args (ev : V → PyVal → Res) (s : SigM) (body : List PyVal → List (String × PyVal) → BodyRes)
    (c : Call) (hc : CleanCall ev s c) (hf : ∃ sl ∈ slots s c, checkSlot ev sl = .fail) :
    ∃ keys, wrapCall ev s body c = (.invalidArgs keys, none) ∧
      ∀ k, k ∈ keys ↔ ∃ sl ∈ slots s c, sl.key = k ∧ checkSlot ev sl = .fail := by
  obtain ⟨sl, hsl, hfl⟩ := hf
  have hne : failingKeys ev (slots s c) ≠ [] :=
    List.ne_nil_of_mem ((mem_failingKeys ev _ sl.key).2 ⟨sl, hsl, rfl, hfl⟩)
  refine ⟨_, by rw [wrapCall_clean ev s body c hc, if_neg hne], fun k => ?_⟩
  simp only [List.mem_reverse, mem_dedupS]
  exact mem_failingKeys ev _ k

/-- when every supplied argument passes, the call is the body run on `delivered` for each argument —
    the validator's payload where the argument is checked, the caller's value where it is not —
    followed by the check of the return value -/
theorem C08_all_pass (ev : V → PyVal → Res) (s : SigM) (body : List PyVal → List (String × PyVal) → BodyRes)
    (c : Call) (hp : ∀ sl ∈ slots s c, (checkSlot ev sl).isPass = true) :
    wrapCall ev s body c =
      finishCall ev s body ((posSlots s c.args).map (delivered ev))
        ((kwSlots s c.kwargs).map (fun sl => (sl.key, delivered ev sl))) := by
  have hnil : failingKeys ev (slots s c) = [] :=
    List.filterMap_eq_nil_iff.2 fun sl hsl => by rw [checkSlot_of_pass (hp sl hsl)]; rfl
  rw [wrapCall_clean ev s body c fun sl h => .inl (hp sl h), if_pos hnil,
    filterMap_eq_map_of fun sl hsl => by rw [checkSlot_of_pass (hp sl (List.mem_append_left _ hsl))]; rfl,
    filterMap_eq_map_of fun sl hsl => by rw [checkSlot_of_pass (hp sl (List.mem_append_right _ hsl))]; rfl]

/-- the body ran (it was given arguments) in every outcome of `finishCall` -/
theorem finishCall_ran (ev : V → PyVal → Res) (s : SigM) (body : List PyVal → List (String × PyVal) → BodyRes)
    (a : List PyVal) (k : List (String × PyVal)) : (finishCall ev s body a k).2 = some (a, k) := by
  unfold finishCall
  cases body a k with
  | exc id => rfl
  | ret v =>
    cases s.ret with
    | none => rfl
    | some rv =>
      dsimp only
      cases ev rv v with
      | none => rfl
      | some r =>
        obtain ⟨o, t⟩ := r
        cases o <;> rfl

theorem C08_body_runs (ev : V → PyVal → Res) (s : SigM) (body : List PyVal → List (String × PyVal) → BodyRes)
    (c : Call) (hp : ∀ sl ∈ slots s c, (checkSlot ev sl).isPass = true) :
    (wrapCall ev s body c).2 =
      some ((posSlots s c.args).map (delivered ev), (kwSlots s c.kwargs).map (fun sl => (sl.key, delivered ev sl))) := by
  rw [C08_all_pass ev s body c hp, finishCall_ran]

/-- **C08**: under `CleanCall`, the body runs iff every supplied argument that is checked is accepted -/
theorem C08_body_iff (ev : V → PyVal → Res) (s : SigM) (body : List PyVal → List (String × PyVal) → BodyRes)
    (c : Call) (hc : CleanCall ev s c) :
    (wrapCall ev s body c).2.isSome = true ↔ ∀ sl ∈ slots s c, (checkSlot ev sl).isPass = true := by
  constructor
  · intro h sl hsl
    rcases hc sl hsl with hp | hf
    · exact hp
    · exfalso
      have hfail : checkSlot ev sl = .fail := by
        cases hcs : checkSlot ev sl <;> simp_all [SlotRes.isFail]
      obtain ⟨keys, hw, _⟩ := C08_invalid_args ev s body c hc ⟨sl, hsl, hfail⟩
      simp [hw] at h
  · intro h
    rw [C08_body_runs ev s body c h]
    rfl

/-- an unchecked argument (no annotation / override, or ignored) always passes, untouched -/
theorem C09_unchecked_untouched (ev : V → PyVal → Res) (sl : Slot) (h : sl.v = none) :
    checkSlot ev sl = .pass sl.x ∧ delivered ev sl = sl.x := by
  simp [checkSlot, delivered, h]

/-- a checked argument that passes is delivered as the validator's payload -/
theorem C09_checked_payload (ev : V → PyVal → Res) (sl : Slot) (v : V) (w : PyVal) (t : List Ev)
    (h : sl.v = some v) (hv : ev v sl.x = some (.valid w, t)) :
    checkSlot ev sl = .pass w ∧ delivered ev sl = w := by
  simp [checkSlot, delivered, h, hv]

theorem slot_pass_iff (ev : V → PyVal → Res) (sl : Slot) :
    (checkSlot ev sl).isPass = true ↔ sl.v = none ∨ ∃ v w t, sl.v = some v ∧ ev v sl.x = some (.valid w, t) := by
  constructor
  · intro h
    unfold checkSlot at h
    -- of the five outcomes only "unchecked" and "accepted" are a pass
    split at h
    · exact .inl ‹_›
    · split at h
      · cases h
      · exact .inr ⟨_, _, _, ‹_›, ‹_›⟩
      · cases h
      · cases h
  · rintro (h | ⟨v, w, t, hv, he⟩)
    · rw [checkSlot, h]; rfl
    · rw [checkSlot, hv]; simp only [he]; rfl

/-- **the return clause** (C08 / C09): the caller receives the body's own value or exception; a checked
    return value is only ever *checked* (InvalidReturnError iff rejected), never replaced -/
theorem C08_return (ev : V → PyVal → Res) (s : SigM) (body : List PyVal → List (String × PyVal) → BodyRes)
    (a : List PyVal) (k : List (String × PyVal)) :
    (finishCall ev s body a k).1 =
      match body a k with
      | .exc id => .bodyRaised id
      | .ret v =>
        match s.ret with
        | none => .returned v
        | some rv =>
          match ev rv v with
          | none => .fuel
          | some (.valid _, _) => .returned v
          | some (.invalid _, _) => .invalidReturn
          | some (.raised e, _) => .validationRaised e := by
  unfold finishCall
  cases body a k with
  | exc id => rfl
  | ret v =>
    cases s.ret with
    | none => rfl
    | some rv =>
      dsimp only
      cases ev rv v with
      | none => rfl
      | some r =>
        obtain ⟨o, t⟩ := r
        cases o <;> rfl

/-- in particular: a body that returns `v` and whose return value is accepted (or unchecked) gives the
    caller `v` itself, and a rejected one gives InvalidReturnError -/
theorem C09_transparent_return (ev : V → PyVal → Res) (s : SigM) (body : List PyVal → List (String × PyVal) → BodyRes)
    (a : List PyVal) (k : List (String × PyVal)) (v : PyVal) (hb : body a k = .ret v) :
    (s.ret = none → (finishCall ev s body a k).1 = .returned v) ∧
    (∀ rv w t, s.ret = some rv → ev rv v = some (.valid w, t) → (finishCall ev s body a k).1 = .returned v) ∧
    (∀ rv e t, s.ret = some rv → ev rv v = some (.invalid e, t) → (finishCall ev s body a k).1 = .invalidReturn) := by
  have hr := C08_return ev s body a k
  rw [hb] at hr
  exact ⟨fun h => by rw [hr, h], fun rv w t h he => by rw [hr, h]; simp only [he],
    fun rv e t h he => by rw [hr, h]; simp only [he]⟩

/-- a body that raises has its exception propagated unchanged -/
theorem C08_body_exception (ev : V → PyVal → Res) (s : SigM) (body : List PyVal → List (String × PyVal) → BodyRes)
    (a : List PyVal) (k : List (String × PyVal)) (id : Nat) (hb : body a k = .exc id) :
    (finishCall ev s body a k).1 = .bodyRaised id := by
  rw [C08_return, hb]

/-- a keyword that names no keyword-addressable parameter (in particular: the name of a positional-only
    parameter) is a `**kwargs` entry -/
theorem kwSlot_not_byKeyword (s : SigM) (k : String) (x : PyVal)
    (h : ∀ p ∈ s.params, p.name = k → p.kind ≠ .posOrKw ∧ p.kind ≠ .kwOnly) :
    kwSlots s [(k, x)] =
      [match s.varKw with
       | some p => if s.ignoredKw.contains k then ⟨k, none, x⟩ else ⟨k, p.v, x⟩
       | none => ⟨k, none, x⟩] := by
  have : s.byKeyword.find? (fun p => p.name = k) = none := by
    rw [List.find?_eq_none]
    intro p hp
    simp only [SigM.byKeyword, List.mem_filter, decide_eq_true_eq] at hp
    intro hk
    have hk' : p.name = k := by simpa using hk
    have := h p hp.1 hk'
    rcases hp.2 with h2 | h2
    · exact this.1 h2
    · exact this.2 h2
  simp only [kwSlots, List.map_cons, List.map_nil, this]
  cases s.varKw <;> rfl

/-- positional arguments beyond the declared positions are all checked by the `*args` validator -/
theorem posSlot_overflow (s : SigM) (args : List PyVal) (i : Nat) (x : PyVal) (p : Param)
    (hi : s.positional.length ≤ i) (hx : args[i]? = some x) (hv : s.varPos = some p) :
    (posSlots s args)[i]? = some ⟨p.name, p.v, x⟩ := by
  have : s.positional[i]? = none := by simp [hi]
  simp [posSlots, List.getElem?_zipIdx, hx, this, hv]

example : (wrapCall (fun _ x => some (.valid x, [])) ⟨[⟨"a", .posOrKw, some (.always 1)⟩], none, []⟩
    (fun a _ => .ret (a.headD .none)) ⟨[.int 3], []⟩).1 = (CallOut.returned (.int 3) : CallOut) := by
  rfl

end Koda
