/-
  C12 — Error rendering is total and faithful for every error the library can produce.
-/
import KodaModel.Render

namespace Koda

mutual
/-- errors the renderer knows: no user-defined error type, no user predicate in a predicate error,
    a container error has exactly one child -/
def renderable (userPids : List Nat) : Inv → Bool
  | .mk (.custom _) _ _ _ => false
  | .mk (.preds pids) _ _ _ => !(pids.any (fun p => userPids.contains p))
  | .mk .container _ _ ch => ch.length == 1 && renderableL userPids ch
  | .mk (.index _) _ _ ch => renderableL userPids ch
  | .mk (.keys _) _ _ ch => renderableL userPids ch
  | .mk (.map _ _) _ _ ch => renderableL userPids ch
  | .mk .set _ _ ch => renderableL userPids ch
  | .mk .union _ _ ch => renderableL userPids ch
  | .mk _ _ _ _ => true
termination_by structural e => e
def renderableL (userPids : List Nat) : List Inv → Bool
  | [] => true
  | e :: es => renderable userPids e && renderableL userPids es
termination_by structural es => es
end

mutual
/-- **totality**: every renderable error tree (any nesting, any width) renders without raising … -/
theorem C12_total (up rv : List Nat) : ∀ e, renderable up e = true → ∃ s, renderFull up rv e = .ok s
  | .mk k v vid ch, h => by
    cases k with
    | custom id => simp [renderable] at h
    | preds pids =>
      simp only [renderable] at h
      have h' : pids.any (fun p => up.contains p) = false := by simpa using h
      simp only [renderFull, renderLeaf, h', Bool.false_eq_true, if_false]
      exact ⟨_, rfl⟩
    | container =>
      simp only [renderable, Bool.and_eq_true, beq_iff_eq] at h
      obtain ⟨ss, hs, hl⟩ := C12_totalL up rv ch h.2
      cases ss with
      | nil => simp [h.1] at hl
      | cons s ss =>
        cases ss with
        | nil => exact ⟨s, by simp only [renderFull, hs, bind, Except.bind]⟩
        | cons _ _ => simp [h.1] at hl
    | type t =>
      simp only [renderFull, renderLeaf]
      split <;> exact ⟨_, rfl⟩
    | coercion compat dest =>
      simp only [renderFull, renderLeaf]
      split
      · exact ⟨_, rfl⟩
      · split <;> exact ⟨_, rfl⟩
    | extraKeys ks => exact ⟨_, rfl⟩
    | missingKey => exact ⟨_, rfl⟩
    | _ =>
      -- index, keys, map, set, union: the children render, and the node is built from their renderings
      simp only [renderable] at h
      obtain ⟨ss, hs, _⟩ := C12_totalL up rv ch h
      simp only [renderFull, hs, bind, Except.bind]
      exact ⟨_, rfl⟩
/-- … and the children's renderings are in bijection with the children (same number, same order) -/
theorem C12_totalL (up rv : List Nat) : ∀ es, renderableL up es = true →
    ∃ ss, renderFullL up rv es = .ok ss ∧ ss.length = es.length
  | [], _ => ⟨[], rfl, rfl⟩
  | e :: es, h => by
    simp only [renderableL, Bool.and_eq_true] at h
    obtain ⟨s, hs⟩ := C12_total up rv e h.1
    obtain ⟨ss, hss, hl⟩ := C12_totalL up rv es h.2
    exact ⟨s :: ss, by simp [renderFullL, hs, hss, bind, Except.bind], by simp [hl]⟩
end

/-- **one entry per failing index / key / set member / union variant**: the number of entries of
    the rendering equals the number of children of the error, nested renderings included -/
theorem C12_mirror_index (up rv : List Nat) (idx : List Nat) (v : PyVal) (vid : Nat) (ch : List Inv)
    (hl : idx.length = ch.length) (h : renderableL up ch = true) :
    ∃ ss, renderFull up rv (.mk (.index idx) v vid ch) = .ok (.list ((idx.zip ss).map (fun p => .list [.num p.1, p.2]))) ∧
      ss.length = ch.length ∧ ((idx.zip ss).map (fun p => Ser.list [.num p.1, p.2])).length = ch.length := by
  obtain ⟨ss, hs, hlen⟩ := C12_totalL up rv ch h
  exact ⟨ss, by simp [renderFull, hs, bind, Except.bind], hlen, by simp [hl, hlen]⟩

theorem C12_mirror_keys (up rv : List Nat) (ks : List PyVal) (v : PyVal) (vid : Nat) (ch : List Inv)
    (hl : ks.length = ch.length) (h : renderableL up ch = true) :
    ∃ ss, renderFull up rv (.mk (.keys ks) v vid ch) = .ok (.dict ((ks.zip ss).map (fun p => ("k", p.2)))) ∧
      ((ks.zip ss).map (fun p => (("k" : String), p.2))).length = ch.length := by
  obtain ⟨ss, hs, hlen⟩ := C12_totalL up rv ch h
  exact ⟨ss, by simp [renderFull, hs, bind, Except.bind], by simp [hl, hlen]⟩

theorem C12_mirror_union (up rv : List Nat) (v : PyVal) (vid : Nat) (ch : List Inv) (h : renderableL up ch = true) :
    ∃ ss, renderFull up rv (.mk .union v vid ch) = .ok (.dict [("variants", .list ss)]) ∧ ss.length = ch.length := by
  obtain ⟨ss, hs, hlen⟩ := C12_totalL up rv ch h
  exact ⟨ss, by simp [renderFull, hs, bind, Except.bind], hlen⟩

theorem C12_mirror_set (up rv : List Nat) (v : PyVal) (vid : Nat) (ch : List Inv) (h : renderableL up ch = true) :
    ∃ ss, renderFull up rv (.mk .set v vid ch) = .ok (.dict [("member_errors", .list ss)]) ∧ ss.length = ch.length := by
  obtain ⟨ss, hs, hlen⟩ := C12_totalL up rv ch h
  exact ⟨ss, by simp [renderFull, hs, bind, Except.bind], hlen⟩

/-- one message per failing predicate -/
theorem C12_mirror_preds (up rv : List Nat) (pids : List Nat) (v : PyVal) (vid : Nat)
    (h : pids.any (fun p => up.contains p) = false) :
    renderFull up rv (.mk (.preds pids) v vid []) = .ok (.list (pids.map (fun _ => Ser.msg))) := by
  simp only [renderFull, renderLeaf, h, Bool.false_eq_true, if_false]

/-- **the custom `next_level` callback is applied to every direct child, and to nothing else** -/
theorem C12_next_level (up rv : List Nat) (next : Inv → Ser) (v : PyVal) (vid : Nat) (ch : List Inv)
    (idx : List Nat) (ks : List PyVal) :
    render up rv next (.mk (.index idx) v vid ch) = .ok (.list ((idx.zip ch).map (fun p => .list [.num p.1, next p.2]))) ∧
    render up rv next (.mk (.keys ks) v vid ch) = .ok (.dict ((ks.zip ch).map (fun p => ("k", next p.2)))) ∧
    render up rv next (.mk .set v vid ch) = .ok (.dict [("member_errors", .list (ch.map next))]) ∧
    render up rv next (.mk .union v vid ch) = .ok (.dict [("variants", .list (ch.map next))]) ∧
    (∀ c, render up rv next (.mk .container v vid [c]) = .ok (next c)) := by
  simp [render]

/-- map pairs: separate key and value parts, each handed to the callback -/
theorem C12_next_level_map (up rv : List Nat) (next : Inv → Ser) (v : PyVal) (vid : Nat) (k : PyVal) (ke ve : Inv) :
    render up rv next (.mk (.map [k] [(true, true)]) v vid [ke, ve]) =
      .ok (.dict [("k", .dict [("key", next ke), ("value", next ve)])]) := by
  simp [render, mapEntries]

/-- `messageLines` (the argument-failure message renderer) is a total function: it has a value on
    *every* error tree, user-defined kinds included — all this statement says -/
theorem C12_message_total (e : Inv) : ∃ n, messageLines e = n := ⟨_, rfl⟩

example : (renderFull [] [] (.mk (.index [1]) .none 1 [.mk (.keys [.str [97]]) .none 2 [.mk (.preds [7, 8]) .none 3 []]])).toOption.isSome = true := by
  rfl

end Koda
