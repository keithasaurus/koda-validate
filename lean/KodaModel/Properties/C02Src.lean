/-
  C02 — the scalar pipeline *as written in /repo's current source*.

  `Generated/ScalarSrc.lean` is rewritten on every run by `harness/pysrc.py` from the AST of
  `_ToTupleStandardValidator._validate_to_tuple`, `_validate_to_tuple_async` and the bare-validator fast
  path `_simple_type_validator.inner` (koda_validate/_internal.py — the code behind all ten scalar
  validators).  The theorems: interpreting the translated bodies (`KodaModel/PyImp.lean`) is the model's
  `scalarStep` — sync and async, for every configuration (coercer or not, any preprocessors, any
  predicates, any async predicates, `None` and `[]` told apart where the source can) and every input;
  outcome, payload, error, trace of user callbacks and exceptions included.
-/
import KodaModel.Generated.ScalarSrc
import KodaModel.Lemmas.SrcLoops

namespace Koda

-- derives the interpreter's equations once for the file instead of once in every proof that unfolds it
attribute [local simp] IExp.eval IStmt.exec IStmt.execL

def scalarOf (o : Oracle) (m : Mode) (cfg : ScalarCfg) (x : PyVal) : Out × List Ev :=
  scalarStep o m cfg.vid cfg.ty cfg.coerce (cfg.pre.getD []) cfg.preds (cfg.apreds.getD []) x

/-- the fast path of a bare validator (`_simple_type_validator`) -/
theorem src_scalar_simple (o : Oracle) (cfg : ScalarCfg) (x : PyVal) :
    runMethod o cfg Src.simpleInner x = some (scalarStep o .sync cfg.vid cfg.ty none [] [] [] x) := by
  dsimp only [runMethod, Src.simpleInner, IStmt.execL, IStmt.exec, IExp.eval, IEnv.get, truthyDV, scalarStep, gate]
  by_cases h : x.ty = cfg.ty
  · rw [beq_iff_eq.mpr h, if_pos h]; rfl
  · rw [beq_false_of_ne h, if_neg h]; rfl

def guardS : IStmt :=
  .ite (.attr .self .disallowSync) [.expr (.call1 (.glob .asyncPredicatesWarning) (.attr .self .cls))] []

def gateS : IStmt :=
  .ite (.attr .self .coerce)
    [.assign .result (.call1 (.attr .self .coerce) (.var .val)),
     .ite (.not (.attr (.var .result) .isJust))
       [.ret (.pair (.bool false) (.call3 (.glob .Invalid)
          (.call2 (.glob .CoercionErr) (.attr (.attr .self .coerce) .compatibleTypes) (.attr .self .TYPE)) (.var .val) .self))]
       [.assign .val (.attr (.var .result) .valA)]]
    [.ite (.isNot (.call1 (.glob .type) (.var .val)) (.attr .self .TYPE))
       [.ret (.pair (.bool false) (.call3 (.glob .Invalid) (.attr .self .typeErr) (.var .val) .self))] []]

def procBody : List IStmt := [.assign .val (.call1 (.var .proc) (.var .val))]

def procsS : IStmt := .ite (.attr .self .preprocessors) [.forIn .proc (.attr .self .preprocessors) procBody] []

def syncComp : IExp := .listComp (.var .pred) .pred (.attr .self .predicates) (.not (.call1 (.var .pred) (.var .val)))

def asyncComp : IExp :=
  .listComp (.var .pred) .pred (.attr .self .predicatesAsync)
    (.not (.await (.call1 (.attr (.var .pred) .validateAsync) (.var .val))))

def retInvalidPreds : IStmt :=
  .ret (.pair (.bool false) (.call3 (.glob .Invalid) (.call1 (.glob .PredicateErrs) (.var .errors)) (.var .val) .self))

def retValid : IStmt := .ret (.pair (.bool true) (.var .val))

def predsSyncS : IStmt :=
  .ite (.attr .self .predicates) [.assign .errors syncComp, .ite (.var .errors) [retInvalidPreds] [retValid]] [retValid]

theorem scalarSync_eq : Src.scalarSync = [guardS, gateS, procsS, predsSyncS] := rfl

theorem scalarAsync_eq : Src.scalarAsync =
    [gateS, procsS, .assign .errors syncComp,
     .ite (.attr .self .predicatesAsync) [.expr (.call1 (.attr (.var .errors) .extend) asyncComp)] [],
     .ite (.var .errors) [retInvalidPreds] [retValid]] := rfl

theorem flow_id (r : Except (IErr × List Ev) Flow) :
    (match r with
     | .error err => .error err
     | .ok (.next st) => .ok (.next st)
     | .ok (.returned d st) => .ok (.returned d st)) = r := by
  cases r with
  | error e => rfl
  | ok f => cases f <;> rfl

theorem execL_single (o : Oracle) (cfg : ScalarCfg) (st : ISt) (s : IStmt) :
    IStmt.execL o cfg st [s] = IStmt.exec o cfg st s := flow_id _

theorem exec_ite (o : Oracle) (cfg : ScalarCfg) (st : ISt) (c : IExp) (t e : List IStmt) :
    IStmt.exec o cfg st (.ite c t e) =
      (match c.eval o cfg st with
       | .error err => .error err
       | .ok (d, st) =>
         match truthyDV d with
         | none => .error (.stuck "truth value", st.tr)
         | some true => IStmt.execL o cfg st t
         | some false => IStmt.execL o cfg st e) := rfl

theorem exec_assign (o : Oracle) (cfg : ScalarCfg) (st : ISt) (v : IVar) (e : IExp) :
    IStmt.exec o cfg st (.assign v e) =
      (match e.eval o cfg st with
       | .error err => .error err
       | .ok (d, st) => .ok (.next { st with env := st.env.set v d })) := rfl

theorem execL_cons (o : Oracle) (cfg : ScalarCfg) (st : ISt) (s : IStmt) (rest : List IStmt) :
    IStmt.execL o cfg st (s :: rest) =
      (match s.exec o cfg st with
       | .error err => .error err
       | .ok (.next st) => IStmt.execL o cfg st rest
       | .ok (.returned d st) => .ok (.returned d st)) := rfl

theorem execL_nil (o : Oracle) (cfg : ScalarCfg) (st : ISt) : IStmt.execL o cfg st [] = .ok (.next st) := rfl

theorem eval_self_predicates (o : Oracle) (cfg : ScalarCfg) (st : ISt) :
    (IExp.attr .self .predicates).eval o cfg st = .ok (.preds cfg.preds, st) := rfl

theorem eval_var (o : Oracle) (cfg : ScalarCfg) (st : ISt) (v : IVar) :
    (IExp.var v).eval o cfg st = .ok (st.env.get v, st) := rfl

/-- `errors.extend(<list>)` -/
theorem exec_extend (o : Oracle) (cfg : ScalarCfg) (st : ISt) (v : IVar) (a : IExp) :
    IStmt.exec o cfg st (.expr (.call1 (.attr (.var v) .extend) a)) =
      (match a.eval o cfg st with
       | .error err => .error err
       | .ok (ad, st) =>
         match st.env.get v, ad with
         | .preds ps, .preds qs => .ok (.next { st with env := st.env.set v (.preds (ps ++ qs)) })
         | _, _ => .error (.stuck "extend", st.tr)) := rfl

/-- `run` is `runPreds` or `runAPreds`, `wrap` how the interpreter holds a predicate of that list, `evOf` what calling one logs -/
theorem compFold_run (wrap : Pred → DV) (evOf : Pred → List Ev)
    (run : List Pred → PyVal → List Nat × List Ev × Option Exn)
    (hnil : ∀ x, run [] x = ([], [], none))
    (hcons : ∀ p ps x, run (p :: ps) x = (match p.k.call x with
      | .error e => ([], evOf p, some e)
      | .ok b => (if b then (run ps x).1 else p.pid :: (run ps x).1, evOf p ++ (run ps x).2.1, (run ps x).2.2)))
    (evalCond evalElt : ISt → IM DV)
    (Hc : ∀ (st : ISt) (p : Pred) (z : PyVal), st.env.pred = wrap p → st.env.val = .py z →
      evalCond st = (match p.k.call z with
        | .ok b => .ok (.bool (!b), { st with tr := st.tr ++ evOf p })
        | .error e => .error (.exn e, st.tr ++ evOf p)))
    (He : ∀ (st : ISt) (p : Pred), st.env.pred = wrap p → evalElt st = .ok (wrap p, st)) :
    ∀ (ps : List Pred) (kept : List DV) (st : ISt) (z : PyVal), st.env.val = .py z →
      (∀ f t e, run ps z = (f, t, some e) →
        compFold evalCond evalElt .pred (ps.map wrap) (.ok (kept, st)) = .error (.exn e, st.tr ++ t)) ∧
      (∀ f t, run ps z = (f, t, none) →
        f = (failingPreds ps z).map (·.pid) ∧
        ∃ st', compFold evalCond evalElt .pred (ps.map wrap) (.ok (kept, st)) =
            .ok (kept ++ (failingPreds ps z).map wrap, st') ∧
          st'.env.val = .py z ∧ st'.tr = st.tr ++ t ∧ st'.env.errors = st.env.errors) := by
  intro ps kept st z hz
  -- the loop state is (kept, interpreter state); it has collected `qs` when `kept` has grown by them
  obtain ⟨c1, c2⟩ := predLoop_spec z evOf (fun ps => run ps z) (hnil z) (fun p ps => hcons p ps z)
    (fun ps (s : List DV × ISt) => compFold evalCond evalElt .pred (ps.map wrap) (.ok s)) (fun s => s.2.tr)
    (fun s qs => s.1 = kept ++ qs.map wrap ∧ s.2.env.val = .py z ∧ s.2.env.errors = st.env.errors)
    .ok (fun e t => .error (.exn e, t)) (fun _ => rfl)
    (by
      rintro p ps ⟨k, s⟩ qs ⟨hk, hv, he⟩
      have hc := Hc { s with env := s.env.set .pred (wrap p) } p z rfl hv
      simp only [List.map_cons, compFold, hc]
      refine ⟨fun e h => by rw [h], fun b hb => ?_⟩
      rw [hb]
      cases b
      · refine ⟨(k ++ [wrap p], { env := s.env.set .pred (wrap p), tr := s.tr ++ evOf p }), ?_, rfl, ?_, hv, he⟩
        · simp only [truthyDV, Bool.not_false, He { env := s.env.set .pred (wrap p), tr := s.tr ++ evOf p } p rfl]
        · show k ++ [wrap p] = kept ++ (qs ++ [p]).map wrap
          rw [show k = _ from hk, List.map_append, List.append_assoc]; rfl
      · exact ⟨(k, { env := s.env.set .pred (wrap p), tr := s.tr ++ evOf p }), rfl, rfl, hk, hv, he⟩)
    ps (kept, st) [] ⟨(List.append_nil kept).symm, hz, rfl⟩
  refine ⟨c1, fun f t h => ?_⟩
  obtain ⟨hf, ⟨k, st'⟩, h1, h2, hk, hv, he⟩ := c2 f t h
  exact ⟨hf, st', by rw [h1, show k = _ from hk]; rfl, hv, h2, he⟩

/-- `[pred for pred in <sync predicates> if not pred(val)]`, generically in the two evaluators -/
theorem compFold_sync (evalCond evalElt : ISt → IM DV)
    (Hc : ∀ (st : ISt) (p : Pred) (z : PyVal), st.env.pred = .pred p → st.env.val = .py z →
      evalCond st = (match p.k.call z with
        | .ok b => .ok (.bool (!b), { st with tr := st.tr ++ p.ev })
        | .error e => .error (.exn e, st.tr ++ p.ev)))
    (He : ∀ (st : ISt) (p : Pred), st.env.pred = .pred p → evalElt st = .ok (.pred p, st)) :
    ∀ (ps : List Pred) (kept : List DV) (st : ISt) (z : PyVal), st.env.val = .py z →
      (∀ f t e, runPreds ps z = (f, t, some e) →
        compFold evalCond evalElt .pred (ps.map DV.pred) (.ok (kept, st)) = .error (.exn e, st.tr ++ t)) ∧
      (∀ f t, runPreds ps z = (f, t, none) →
        f = (failingPreds ps z).map (·.pid) ∧
        ∃ st', compFold evalCond evalElt .pred (ps.map DV.pred) (.ok (kept, st)) =
            .ok (kept ++ (failingPreds ps z).map DV.pred, st') ∧
          st'.env.val = .py z ∧ st'.tr = st.tr ++ t ∧ st'.env.errors = st.env.errors) :=
  compFold_run DV.pred Pred.ev runPreds (fun _ => rfl) (fun _ _ _ => rfl) evalCond evalElt Hc He

/-- `[pred for pred in <async predicates> if not pred(val)]`, generically in the two evaluators -/
theorem compFold_async (evalCond evalElt : ISt → IM DV)
    (Hc : ∀ (st : ISt) (p : Pred) (z : PyVal), st.env.pred = .apred p → st.env.val = .py z →
      evalCond st = (match p.k.call z with
        | .ok b => .ok (.bool (!b), { st with tr := st.tr ++ [Ev.apred p.pid] })
        | .error e => .error (.exn e, st.tr ++ [Ev.apred p.pid])))
    (He : ∀ (st : ISt) (p : Pred), st.env.pred = .apred p → evalElt st = .ok (.apred p, st)) :
    ∀ (ps : List Pred) (kept : List DV) (st : ISt) (z : PyVal), st.env.val = .py z →
      (∀ f t e, runAPreds ps z = (f, t, some e) →
        compFold evalCond evalElt .pred (ps.map DV.apred) (.ok (kept, st)) = .error (.exn e, st.tr ++ t)) ∧
      (∀ f t, runAPreds ps z = (f, t, none) →
        f = (failingPreds ps z).map (·.pid) ∧
        ∃ st', compFold evalCond evalElt .pred (ps.map DV.apred) (.ok (kept, st)) =
            .ok (kept ++ (failingPreds ps z).map DV.apred, st') ∧
          st'.env.val = .py z ∧ st'.tr = st.tr ++ t ∧ st'.env.errors = st.env.errors) :=
  compFold_run DV.apred (fun p => [Ev.apred p.pid]) runAPreds (fun _ => rfl) (fun _ _ _ => rfl) evalCond evalElt Hc He

theorem listComp_eval (o : Oracle) (cfg : ScalarCfg) (wrap : Pred → DV) (evOf : Pred → List Ev)
    (run : List Pred → PyVal → List Nat × List Ev × Option Exn)
    (hnil : ∀ x, run [] x = ([], [], none))
    (hcons : ∀ p ps x, run (p :: ps) x = (match p.k.call x with
      | .error e => ([], evOf p, some e)
      | .ok b => (if b then (run ps x).1 else p.pid :: (run ps x).1, evOf p ++ (run ps x).2.1, (run ps x).2.2)))
    (iter cond : IExp) (itd : DV) (ps : List Pred)
    (hitd : itd = .preds ps ∧ wrap = DV.pred ∨ itd = .apreds ps ∧ wrap = DV.apred)
    (st : ISt) (z : PyVal) (hz : st.env.val = .py z) (hiter : iter.eval o cfg st = .ok (itd, st))
    (Hc : ∀ (st : ISt) (p : Pred) (z : PyVal), st.env.pred = wrap p → st.env.val = .py z →
      cond.eval o cfg st = (match p.k.call z with
        | .ok b => .ok (.bool (!b), { st with tr := st.tr ++ evOf p })
        | .error e => .error (.exn e, st.tr ++ evOf p))) :
    (∀ f t e, run ps z = (f, t, some e) →
      (IExp.listComp (.var .pred) .pred iter cond).eval o cfg st = .error (.exn e, st.tr ++ t)) ∧
    (∀ f t, run ps z = (f, t, none) →
      f = (failingPreds ps z).map (·.pid) ∧
      ∃ st', (IExp.listComp (.var .pred) .pred iter cond).eval o cfg st = .ok (.preds (failingPreds ps z), st') ∧
        st'.env.val = .py z ∧ st'.tr = st.tr ++ t ∧ st'.env.errors = st.env.errors) := by
  have He : ∀ (st : ISt) (p : Pred), st.env.pred = wrap p → (IExp.var .pred).eval o cfg st = .ok (wrap p, st) :=
    fun st p h => congrArg (fun d => Except.ok (d, st)) h
  obtain ⟨c1, c2⟩ := compFold_run wrap evOf run hnil hcons _ _ Hc He ps [] st z hz
  have hunf : (IExp.listComp (.var .pred) .pred iter cond).eval o cfg st =
      (match compFold (fun st => cond.eval o cfg st) (fun st => (IExp.var .pred).eval o cfg st) .pred (ps.map wrap)
          (.ok ([], st)) with
       | .error err => .error err
       | .ok (kept, st) =>
         let qs := kept.filterMap (fun d => match d with | .pred p => some p | .apred p => some p | _ => Option.none)
         if qs.length = kept.length then .ok (.preds qs, st) else stuck st "comprehension element") := by
    rw [IExp.eval, hiter]
    rcases hitd with ⟨rfl, rfl⟩ | ⟨rfl, rfl⟩ <;> rfl
  have hw : ∀ p, (match wrap p with | .pred q => some q | .apred q => some q | _ => Option.none) = some p := by
    rcases hitd with ⟨_, rfl⟩ | ⟨_, rfl⟩ <;> exact fun _ => rfl
  refine ⟨fun f t e h => by rw [hunf, c1 f t e h], fun f t h => ?_⟩
  obtain ⟨hf, st', h1, h2, h3, h4⟩ := c2 f t h
  refine ⟨hf, st', ?_, h2, h3, h4⟩
  rw [hunf, h1]
  simp only [List.nil_append, List.filterMap_map, Function.comp_def, hw, List.filterMap_some, List.length_map, if_true]

theorem syncComp_eval (o : Oracle) (cfg : ScalarCfg) (st : ISt) (z : PyVal) (hz : st.env.val = .py z) :
    (∀ f t e, runPreds cfg.preds z = (f, t, some e) → syncComp.eval o cfg st = .error (.exn e, st.tr ++ t)) ∧
    (∀ f t, runPreds cfg.preds z = (f, t, none) →
      f = (failingPreds cfg.preds z).map (·.pid) ∧
      ∃ st', syncComp.eval o cfg st = .ok (.preds (failingPreds cfg.preds z), st') ∧
        st'.env.val = .py z ∧ st'.tr = st.tr ++ t ∧ st'.env.errors = st.env.errors) := by
  refine listComp_eval o cfg DV.pred Pred.ev runPreds (fun _ => rfl) (fun _ _ _ => rfl) _ _
    (.preds cfg.preds) cfg.preds (.inl ⟨rfl, rfl⟩) st z hz rfl ?_
  intro st p z h1 h2
  simp only [IExp.eval, IEnv.get, h1, h2]
  cases p.k.call z <;> rfl

def outOf : Except (IErr × List Ev) Flow → Option (Out × List Ev)
  | .error (.exn e, t) => some (.raised e, t)
  | .error (.stuck _, _) => none
  | .ok (.returned (.pair (.bool true) (.py w)) st) => some (.valid w, st.tr)
  | .ok (.returned (.pair (.bool false) (.invalid e)) st) => some (.invalid e, st.tr)
  | .ok _ => none

theorem runMethod_eq (o : Oracle) (cfg : ScalarCfg) (body : List IStmt) (x : PyVal) :
    runMethod o cfg body x = outOf (IStmt.execL o cfg { env := { val := .py x }, tr := [] } body) := rfl

/-- `if errors: return False, Invalid(PredicateErrs(errors), val, self)  else: return True, val` -/
theorem finalIte_exec (o : Oracle) (cfg : ScalarCfg) (st : ISt) (z : PyVal) (ps : List Pred) (t0 t : List Ev)
    (hz : st.env.val = .py z) (he : st.env.errors = .preds ps) (ht : st.tr = t0 ++ t) :
    outOf (IStmt.execL o cfg st [.ite (.var .errors) [retInvalidPreds] [retValid]]) =
      some (finishPreds cfg.vid z t0 (ps.map (·.pid), t, none)) := by
  obtain ⟨⟨val, res, errs, proc, pred⟩, tr⟩ := st
  cases hz
  cases he
  cases ht
  cases ps <;> rfl

theorem predsSync_exec (o : Oracle) (cfg : ScalarCfg) (aps : List Pred) (st : ISt) (z : PyVal) (hz : st.env.val = .py z) :
    outOf (IStmt.execL o cfg st [predsSyncS]) = some (finishPreds cfg.vid z st.tr (contPreds .sync cfg.preds aps z)) := by
  rw [execL_single, predsSyncS, exec_ite, eval_self_predicates]
  cases hp : cfg.preds with
  | nil =>
    -- `if self.predicates:` is false: `return True, val`
    obtain ⟨⟨val, res, errs, proc, pred⟩, tr⟩ := st
    cases hz
    exact congrArg (fun t => some (Out.valid z, t)) (List.append_nil tr).symm
  | cons a l =>
    show outOf (IStmt.execL o cfg st [.assign .errors syncComp, .ite (.var .errors) [retInvalidPreds] [retValid]]) = _
    obtain ⟨c1, c2⟩ := syncComp_eval o cfg st z hz
    rw [execL_cons, exec_assign, ← hp]
    rcases hr : runPreds cfg.preds z with ⟨f, t, _ | e⟩
    · obtain ⟨hf, st', h1, h2, h3, _⟩ := c2 f t hr
      rw [h1, contPreds_sync, hr, hf]
      exact finalIte_exec o cfg ⟨st'.env.set .errors (.preds (failingPreds cfg.preds z)), st'.tr⟩ z _ st.tr t h2 rfl h3
    · rw [c1 f t e hr, contPreds_sync, hr]
      rfl

theorem forFold_procs (execBody : ISt → Except (IErr × List Ev) Flow)
    (Hb : ∀ (st : ISt) (p : Proc) (y : PyVal), st.env.proc = .proc p → st.env.val = .py y →
      execBody st = (match p.k.call y with
        | .ok z => .ok (.next { env := st.env.set .val (.py z), tr := st.tr ++ p.ev })
        | .error e => .error (.exn e, st.tr ++ p.ev))) :
    ∀ (ps : List Proc) (st : ISt) (y : PyVal), st.env.val = .py y →
      (∀ e t2, runProcs ps y = (.error e, t2) →
        forFold execBody .proc (ps.map DV.proc) st = .error (.exn e, st.tr ++ t2)) ∧
      (∀ z t2, runProcs ps y = (.ok z, t2) →
        ∃ st', forFold execBody .proc (ps.map DV.proc) st = .ok (.next st') ∧ st'.env.val = .py z ∧ st'.tr = st.tr ++ t2) :=
  procLoop_spec (fun ps st => forFold execBody .proc (ps.map DV.proc) st) ISt.tr (fun st y => st.env.val = .py y)
    (fun st => .ok (.next st)) (fun e t => .error (.exn e, t)) (fun _ => rfl)
    (by
      intro p ps st y hy
      have hb := Hb { st with env := st.env.set .proc (.proc p) } p y rfl hy
      simp only [List.map_cons, forFold, hb]
      exact ⟨fun e h => by rw [h], fun z h => by rw [h]; exact ⟨_, rfl, rfl, rfl⟩⟩)

theorem procBody_exec (o : Oracle) (cfg : ScalarCfg) (st : ISt) (p : Proc) (y : PyVal)
    (h1 : st.env.proc = .proc p) (h2 : st.env.val = .py y) :
    IStmt.execL o cfg st procBody = (match p.k.call y with
      | .ok z => .ok (.next { env := st.env.set .val (.py z), tr := st.tr ++ p.ev })
      | .error e => .error (.exn e, st.tr ++ p.ev)) := by
  obtain ⟨⟨val, res, errs, proc, pred⟩, tr⟩ := st
  cases h1
  cases h2
  dsimp only [procBody, IStmt.execL, IStmt.exec, IExp.eval, IEnv.get]
  cases p.k.call y <;> rfl

/-- `if self.preprocessors: for proc in self.preprocessors: val = proc(val)`, then the rest -/
theorem procs_exec (o : Oracle) (cfg : ScalarCfg) (st : ISt) (y : PyVal) (hy : st.env.val = .py y) (rest : List IStmt) :
    (∀ e t2, runProcs (cfg.pre.getD []) y = (.error e, t2) →
      outOf (IStmt.execL o cfg st (procsS :: rest)) = some (.raised e, st.tr ++ t2)) ∧
    (∀ z t2, runProcs (cfg.pre.getD []) y = (.ok z, t2) →
      ∃ st', IStmt.execL o cfg st (procsS :: rest) = IStmt.execL o cfg st' rest ∧
        st'.env.val = .py z ∧ st'.tr = st.tr ++ t2) := by
  obtain ⟨vid, ty, co, pre, preds, ap⟩ := cfg
  rcases pre with _ | _ | ⟨p, ps⟩
  case some.cons =>
    have hfor : IStmt.exec o ⟨vid, ty, co, some (p :: ps), preds, ap⟩ st procsS =
        forFold (fun st => IStmt.execL o _ st procBody) .proc ((p :: ps).map DV.proc) st :=
      execL_single o _ st (.forIn .proc (.attr .self .preprocessors) procBody)
    obtain ⟨f1, f2⟩ := forFold_procs (fun st => IStmt.execL o _ st procBody)
      (fun st p y h1 h2 => procBody_exec o _ st p y h1 h2) (p :: ps) st y hy
    rw [execL_cons, hfor]
    refine ⟨fun e t2 h => by rw [f1 e t2 h]; rfl, fun z t2 h => ?_⟩
    obtain ⟨st', g1, g2, g3⟩ := f2 z t2 h
    exact ⟨st', by rw [g1], g2, g3⟩
  -- no preprocessors (`None`, `[]`): `if self.preprocessors:` is false
  all_goals exact ⟨(fun e t2 h => nomatch h), fun z t2 h => by cases h; exact ⟨st, rfl, hy, (List.append_nil _).symm⟩⟩

theorem gate_exec (o : Oracle) (cfg : ScalarCfg) (st : ISt) (x : PyVal) (hx : st.env.val = .py x) (rest : List IStmt) :
    (∀ k t, gate o cfg.ty cfg.ty cfg.coerce x = .rej k t →
      outOf (IStmt.execL o cfg st (gateS :: rest)) = some (.invalid (.mk k x cfg.vid []), st.tr ++ t)) ∧
    (∀ y t, gate o cfg.ty cfg.ty cfg.coerce x = .acc y t →
      ∃ st', IStmt.execL o cfg st (gateS :: rest) = IStmt.execL o cfg st' rest ∧
        st'.env.val = .py y ∧ st'.tr = st.tr ++ t) := by
  obtain ⟨⟨val, res, errs, proc, pred⟩, tr⟩ := st
  cases hx
  obtain ⟨vid, ty, co, pre, preds, ap⟩ := cfg
  rw [execL_cons, gateS, exec_ite]
  cases co with
  | none =>
    dsimp only [IExp.eval, selfAttr, truthyDV, gate]
    rw [execL_single, exec_ite]
    dsimp only [IExp.eval, selfAttr, truthyDV, IEnv.get]
    by_cases hty : x.ty = ty
    · rw [if_pos hty, beq_iff_eq.mpr hty]
      exact ⟨(fun k t h => nomatch h), fun y t h => by cases h; exact ⟨_, rfl, rfl, (List.append_nil _).symm⟩⟩
    · rw [if_neg hty, beq_false_of_ne hty]
      exact ⟨fun k t h => by cases h; rw [List.append_nil]; rfl, fun y t h => nomatch h⟩
  | some c =>
    dsimp only [IExp.eval, selfAttr, truthyDV, gate]
    rw [execL_cons, exec_assign]
    dsimp only [IExp.eval, selfAttr, IEnv.get, callCoercer]
    obtain ⟨y, t, hg, hc⟩ | ⟨t, hg, hc⟩ := callCoercer_cases o ty ty c x (callCoercer o ty c x) (compatOf ty c) rfl
      (by cases c <;> rfl)
    · rw [hg]
      exact ⟨(fun k t' h => nomatch h), fun y' t' h => by cases h; exact ⟨_, rfl, rfl, rfl⟩⟩
    · rw [hg]
      refine ⟨fun k' t' h => ?_, fun y t' h => nomatch h⟩
      cases h
      rfl

theorem guard_exec (o : Oracle) (cfg : ScalarCfg) (st : ISt) (rest : List IStmt) :
    IStmt.execL o cfg st (guardS :: rest) =
      (if (cfg.apreds.getD []) ≠ [] then .error (.exn .assertion, st.tr) else IStmt.execL o cfg st rest) := by
  obtain ⟨vid, ty, co, pre, preds, ap⟩ := cfg
  rcases ap with _ | _ | ⟨a, l⟩ <;> rfl

/-- both methods are the gate, the preprocessors, then a `tail` that runs the predicates as `contPreds` does in its mode -/
theorem scalar_run (o : Oracle) (cfg : ScalarCfg) (m : Mode) (x : PyVal) (tail : List IStmt)
    (hm : ¬ (m = .sync ∧ cfg.apreds.getD [] ≠ []))
    (htail : ∀ (st : ISt) (z : PyVal), st.env.val = .py z → outOf (IStmt.execL o cfg st tail) =
      some (finishPreds cfg.vid z st.tr (contPreds m cfg.preds (cfg.apreds.getD []) z))) :
    outOf (IStmt.execL o cfg { env := { val := .py x }, tr := [] } (gateS :: procsS :: tail)) =
      some (scalarOf o m cfg x) := by
  unfold scalarOf scalarStep
  rw [if_neg hm]
  obtain ⟨g1, g2⟩ := gate_exec o cfg { env := { val := .py x }, tr := [] } x rfl (procsS :: tail)
  cases hg : gate o cfg.ty cfg.ty cfg.coerce x with
  | exn e t => exact absurd hg ((gate_wf o cfg.ty cfg.ty cfg.coerce x).ne_exn e t)
  | rej k t => exact g1 k t hg
  | acc y t =>
    obtain ⟨st', h1, h2, h3 : st'.tr = t⟩ := g2 y t hg
    obtain ⟨p1, p2⟩ := procs_exec o cfg st' y h2 tail
    rw [h1, ← h3]
    dsimp only
    rcases hr : runProcs (cfg.pre.getD []) y with ⟨_ | z, t2⟩
    · exact p1 _ t2 hr
    · obtain ⟨st'', q1, q2, q3⟩ := p2 z t2 hr
      rw [q1, htail st'' z q2, q3]

/-- **the synchronous scalar pipeline, as written in the source, is the model's `scalarStep`** -/
theorem src_scalar_sync (o : Oracle) (cfg : ScalarCfg) (x : PyVal) :
    runMethod o cfg Src.scalarSync x = some (scalarOf o .sync cfg x) := by
  rw [runMethod_eq, scalarSync_eq, guard_exec]
  by_cases hap : cfg.apreds.getD [] = []
  · rw [if_neg (fun h => h hap)]
    exact scalar_run o cfg .sync x [predsSyncS] (fun h => h.2 hap) (predsSync_exec o cfg _)
  · unfold scalarOf scalarStep
    rw [if_pos hap, if_pos ⟨rfl, hap⟩]
    rfl

theorem asyncComp_eval (o : Oracle) (cfg : ScalarCfg) (aps : List Pred) (hap : cfg.apreds = some aps)
    (st : ISt) (z : PyVal) (hz : st.env.val = .py z) :
    (∀ f t e, runAPreds aps z = (f, t, some e) → asyncComp.eval o cfg st = .error (.exn e, st.tr ++ t)) ∧
    (∀ f t, runAPreds aps z = (f, t, none) →
      f = (failingPreds aps z).map (·.pid) ∧
      ∃ st', asyncComp.eval o cfg st = .ok (.preds (failingPreds aps z), st') ∧
        st'.env.val = .py z ∧ st'.tr = st.tr ++ t ∧ st'.env.errors = st.env.errors) := by
  refine listComp_eval o cfg DV.apred (fun p => [Ev.apred p.pid]) runAPreds (fun _ => rfl) (fun _ _ _ => rfl)
    _ _ (.apreds aps) aps (.inr ⟨rfl, rfl⟩) st z hz ?_ ?_
  · simp only [IExp.eval, selfAttr, hap, optList]
  · intro st p z h1 h2
    simp only [IExp.eval, IEnv.get, h1, h2]
    cases p.k.call z <;> rfl

theorem predsAsync_exec (o : Oracle) (cfg : ScalarCfg) (st : ISt) (z : PyVal) (hz : st.env.val = .py z) :
    outOf (IStmt.execL o cfg st
      [.assign .errors syncComp,
       .ite (.attr .self .predicatesAsync) [.expr (.call1 (.attr (.var .errors) .extend) asyncComp)] [],
       .ite (.var .errors) [retInvalidPreds] [retValid]]) =
      some (finishPreds cfg.vid z st.tr (contPreds .async cfg.preds (cfg.apreds.getD []) z)) := by
  obtain ⟨c1, c2⟩ := syncComp_eval o cfg st z hz
  rw [execL_cons, exec_assign]
  rcases hr : runPreds cfg.preds z with ⟨f, t, _ | e⟩
  · obtain ⟨hf, st', h1, h2, h3, _⟩ := c2 f t hr
    rw [h1, contPreds_async, hr, hf]
    -- `errors` now holds the failing synchronous predicates; next `if self.predicates_async:`
    dsimp only
    rw [execL_cons, exec_ite,
      show (IExp.attr .self .predicatesAsync).eval o cfg _ = .ok (optList .apreds cfg.apreds, _) from rfl]
    rcases hap : cfg.apreds with _ | _ | ⟨a, l⟩
    case some.cons =>
      obtain ⟨a1, a2⟩ := asyncComp_eval o cfg (a :: l) hap
        { env := st'.env.set .errors (.preds (failingPreds cfg.preds z)), tr := st'.tr } z h2
      show outOf (match IStmt.execL o cfg _ [.expr (.call1 (.attr (.var .errors) .extend) asyncComp)] with
        | .error err => .error err
        | .ok (.next st) => IStmt.execL o cfg st [.ite (.var .errors) [retInvalidPreds] [retValid]]
        | .ok (.returned d st) => .ok (.returned d st)) = _
      rw [execL_single, exec_extend, Option.getD_some]
      rcases hra : runAPreds (a :: l) z with ⟨fa, ta, _ | ea⟩
      · obtain ⟨hfa, st2, b1, b2, b3, b4⟩ := a2 fa ta hra
        rw [b1]
        have herr : st2.env.get .errors = .preds (failingPreds cfg.preds z) := b4
        dsimp only
        rw [herr]
        dsimp only
        rw [finalIte_exec o cfg ⟨st2.env.set .errors (.preds (failingPreds cfg.preds z ++ failingPreds (a :: l) z)), st2.tr⟩
          z _ st.tr (t ++ ta) b2 rfl (by rw [b3, h3, List.append_assoc]), hfa, List.map_append]
      · rw [a1 fa ta ea hra, h3, List.append_assoc]
        rfl
    -- no async predicates (`None`, `[]`)
    all_goals
      show outOf (IStmt.execL o cfg _ [.ite (.var .errors) [retInvalidPreds] [retValid]]) = _
      rw [finalIte_exec o cfg ⟨st'.env.set .errors (.preds (failingPreds cfg.preds z)), st'.tr⟩ z _ st.tr t h2 rfl h3]
      show _ = some (finishPreds cfg.vid z st.tr (_ ++ [], t ++ [], none))
      rw [List.append_nil, List.append_nil]
  · rw [c1 f t e hr, contPreds_async, hr]
    rfl

/-- **the asynchronous scalar pipeline, as written in the source, is the model's `scalarStep`** -/
theorem src_scalar_async (o : Oracle) (cfg : ScalarCfg) (x : PyVal) :
    runMethod o cfg Src.scalarAsync x = some (scalarOf o .async cfg x) := by
  rw [runMethod_eq, scalarAsync_eq]
  exact scalar_run o cfg .async x _ (fun h => nomatch h.1) (predsAsync_exec o cfg)

/-- `self._disallow_synchronous = bool(predicates_async)`; the bare-validator fast path is installed exactly when no
    predicate, async predicate, preprocessor or coercer is configured, and closes over (self, self._TYPE, TypeErr) -/
theorem src_scalar_init :
    Src.disallowInit = "bool(predicates_async)" ∧
    Src.fastPathCond = "not predicates and (not predicates_async) and (not preprocessors) and (not coerce)" ∧
    Src.fastPathAssign = "self._validate_to_tuple = _simple_type_validator(self, self._TYPE, _type_err)" ∧
    Src.simpleInnerParams = "instance, type_, type_err -> return inner" := ⟨rfl, rfl, rfl, rfl⟩

/-- the fast path agrees with the general method on the configurations it is installed for -/
theorem src_scalar_fastpath_consistent (o : Oracle) (cfg : ScalarCfg) (x : PyVal)
    (h1 : cfg.coerce = none) (h2 : cfg.pre.getD [] = []) (h3 : cfg.preds = []) (h4 : cfg.apreds.getD [] = []) :
    runMethod o cfg Src.simpleInner x = runMethod o cfg Src.scalarSync x := by
  rw [src_scalar_simple, src_scalar_sync, scalarOf, h1, h2, h3, h4]

/-! ### non-vacuity: `StringValidator(MinLength(2), preprocessors=[strip])` on `" a "` through the translated source -/

example : runMethod default ⟨7, .str, none, some [⟨1, .strip⟩], [⟨2, .minLength 2⟩], none⟩ Src.scalarSync (.str [32, 97, 32]) =
    some (.invalid (.mk (.preds [2]) (.str [97]) 7 []), []) := by
  rw [src_scalar_sync]; rfl

end Koda
