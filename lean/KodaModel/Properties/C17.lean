/-
  C17 — validated output is a fixed point.

  Scalars: if `scalarStep` returns `Valid w`, the gate lets `w` through unchanged and the processors
  leave it unchanged (`GateFix`, `ProcsFix` — both proved below for the cases the property names: no
  coercer / a default coercer on its own target type; no processors / one built-in idempotent
  processor), then validating `w` again returns `Valid w`.
  Lists and uniform tuples: if the container predicates hold of the payload (this is the hypothesis
  finding D22 is about) and every element payload is a fixed point of the child, so is the container.
-/
import KodaModel.Properties.C02
import KodaModel.Properties.C03
import KodaModel.Properties.C15
import KodaModel.Lemmas.Loops

namespace Koda

def GateFix (o : Oracle) (tg : Ty) (c : Option CoerceK) (w : PyVal) : Prop := gate o tg tg c w = .acc w []

def ProcsFix (pre : List Proc) (w : PyVal) : Prop := ∃ t, runProcs pre w = (.ok w, t)

/-- whatever `ev` returns as a payload it accepts unchanged -/
def PayloadsFixed (ev : Ev1) : Prop := ∀ x w u, ev x = some (.valid w, u) → ∃ u', ev w = some (.valid w, u')

theorem run_some_succ {o : Oracle} {env : Nat → V} {m : Mode} {n : Nat} {v : V} {x : PyVal} {r : Out × List Ev}
    (h : run o env m n v x = some r) : ∃ k, n = k + 1 := by
  cases n with
  | zero => cases h
  | succ k => exact ⟨k, rfl⟩

theorem contPreds_nil (m : Mode) (x : PyVal) : contPreds m [] [] x = ([], [], none) := by
  cases m <;> rfl

theorem gate_dflt_acc {o : Oracle} {tg d : Ty} {x y : PyVal} {t : List Ev} (h : gate o tg d (some .dflt) x = .acc y t) :
    defaultCoerce o tg x = some y := by
  simp only [gate, applyCoerce] at h
  split at h
  · rename_i hd
    cases h
    exact hd
  · cases h

theorem defaultCoerce_self (o : Oracle) (tg : Ty) (w : PyVal) (hw : w.ty = tg)
    (htg : tg = .decimal ∨ tg = .uuid ∨ tg = .date ∨ tg = .datetime) : defaultCoerce o tg w = some w := by
  rcases htg with rfl | rfl | rfl | rfl <;> simp [defaultCoerce, hw]

theorem noneStep_valid_iff (o : Oracle) (vid : Nat) (x w : PyVal) (t : List Ev) :
    noneStep o vid none x = (.valid w, t) ↔ x = .none ∧ w = .none ∧ t = [] := by
  by_cases hx : x = .none
  · subst hx; simp [noneStep, eq_comm]
  · simp [(C02_none o vid x).2 hx, hx]

/-- **C17, scalars**: a payload that passes gate and processors unchanged is accepted with itself as
    payload (the predicates were evaluated on this very value the first time) -/
theorem C17_scalar_fixed (o : Oracle) (m : Mode) (vid : Nat) (tg : Ty) (c : Option CoerceK) (pre : List Proc)
    (ps aps : List Pred) (x w : PyVal) (t : List Ev)
    (h : scalarStep o m vid tg c pre ps aps x = (.valid w, t)) (hg : GateFix o tg c w) (hp : ProcsFix pre w) :
    ∃ t', scalarStep o m vid tg c pre ps aps w = (.valid w, t') := by
  rw [C02_accept_iff] at h
  obtain ⟨hguard, y, t0, t1, _, _, he, hn, _⟩ := h
  obtain ⟨t2, hp2⟩ := hp
  refine ⟨[] ++ t2 ++ (contPreds m ps aps w).2.1, ?_⟩
  rw [C02_accept_iff]
  exact ⟨hguard, w, [], t2, hg, hp2, he, hn, rfl⟩

theorem GateFix_none (o : Oracle) (tg : Ty) (x y : PyVal) (t : List Ev) (h : gate o tg tg none x = .acc y t) :
    y.ty = tg := by
  simp only [gate] at h
  split at h
  · cases h; assumption
  · cases h

theorem GateFix_exact (o : Oracle) {tg : Ty} {w : PyVal} (h : w.ty = tg) : GateFix o tg none w := by
  simp [GateFix, gate, h]

theorem GateFix_default (o : Oracle) (tg : Ty) (w : PyVal) (hw : w.ty = tg)
    (htg : tg = .decimal ∨ tg = .uuid ∨ tg = .date ∨ tg = .datetime) : GateFix o tg (some .dflt) w := by
  simp [GateFix, gate, applyCoerce, defaultCoerce_self o tg w hw htg]

theorem ProcsFix_nil (w : PyVal) : ProcsFix [] w := ⟨[], rfl⟩

theorem dropWhile_self (sp : Nat → Bool) (l : List Nat) (h : ∀ a, l.head? = some a → sp a = false) :
    l.dropWhile sp = l := by
  cases l with
  | nil => rfl
  | cons a l => simp [h a rfl]

theorem head_dropWhile (sp : Nat → Bool) (l : List Nat) (a : Nat) (h : (l.dropWhile sp).head? = some a) : sp a = false := by
  have := List.head?_dropWhile_not sp l
  rw [h] at this
  exact this

theorem stripWith_idem (sp : Nat → Bool) (s : List Nat) : stripWith sp (stripWith sp s) = stripWith sp s := by
  unfold stripWith
  -- a := left-stripped, b := reversed and left-stripped again; the result is b.reverse, a prefix of a
  generalize ha : s.dropWhile sp = a
  have ha_head : ∀ c, a.head? = some c → sp c = false := by rw [← ha]; exact head_dropWhile sp s
  obtain ⟨p, hp⟩ := List.dropWhile_suffix (l := a.reverse) sp
  generalize hb : a.reverse.dropWhile sp = b at hp
  have hb_head : ∀ c, b.head? = some c → sp c = false := by rw [← hb]; exact head_dropWhile sp a.reverse
  have hpre : a = b.reverse ++ p.reverse := by simpa using congrArg List.reverse hp.symm
  -- left strip of b.reverse does nothing: its head is the head of a
  have h1 : b.reverse.dropWhile sp = b.reverse := by
    apply dropWhile_self
    intro c hc
    apply ha_head
    rw [hpre, List.head?_append, hc]
    rfl
  rw [h1, List.reverse_reverse, dropWhile_self sp b hb_head]

theorem ProcsFix_builtin (p : Proc) (s : List Nat) (z : PyVal) (hk : p.k = .strip ∨ p.k = .upper ∨ p.k = .lower)
    (h : p.k.call (.str s) = .ok z) : ProcsFix [p] z := by
  rcases hk with hk | hk | hk <;> simp only [hk, ProcK.call, PyVal.unsub, Except.ok.injEq] at h <;> subst h <;>
    exact ⟨p.ev ++ [], by
      simp only [runProcs, hk, ProcK.call, PyVal.unsub, stripWith_idem, C15_upper_idem, C15_lower_idem]⟩

theorem loopItems_fixed (ev : Ev1) (hr : Bool) : ∀ (ws : List PyVal) (i : Nat),
    (∀ w ∈ ws, (hr = true → hashable w = true) ∧ ∃ t, ev w = some (.valid w, t)) →
    ∃ t, loopItems ev hr ws i true = some ⟨ws, [], t, none⟩ := by
  intro ws
  induction ws with
  | nil => intro i _; exact ⟨[], rfl⟩
  | cons w ws ih =>
    intro i h
    obtain ⟨hh, t0, h0⟩ := h w (by simp)
    obtain ⟨t1, h1⟩ := ih (i + 1) (fun w' hw' => h w' (by simp [hw']))
    have hbad : (hr && true && !hashable w) = false := by cases hr <;> simp [hh]
    exact ⟨t0 ++ t1, by simp only [loopItems, h0, hbad, h1]; rfl⟩

theorem Items.valid_payloads {ev : Ev1} {hr : Bool} {xs : List PyVal} {i : Nat} {ne : Bool} {r : LoopR}
    (h : Items ev hr xs i ne r) : ne = true → r.r = none → r.es = [] →
    ∀ w ∈ r.ws, (hr = true → hashable w = true) ∧ ∃ x u, ev x = some (.valid w, u) := by
  induction h with
  | nil => intro _ _ _ w hw; cases hw
  | raised => intro _ hr; cases hr
  | unhashable => intro _ hr; cases hr
  | invalid => intro _ _ he; cases he
  | @valid x xs i ne w0 t r hx hc _ ih =>
    intro hne hrn hes w hw
    rcases List.mem_cons.1 hw with rfl | hw
    · exact ⟨fun hhr => by simpa [hhr, hne] using hc, x, t, hx⟩
    · exact ih hne hrn hes w hw

theorem seqStep_valid_inv {k : SeqKind} {o : Oracle} {m : Mode} {vid : Nat} {ps aps : List Pred} {c : Option CoerceK}
    {ev : Ev1} {x w : PyVal} {t : List Ev} (h : seqStep k o m vid ps aps c ev x = some (.valid w, t)) :
    ∃ ws, w = k.build ws ∧ ∀ w' ∈ ws, (k = .set → hashable w' = true) ∧ ∃ x' u, ev x' = some (.valid w', u) := by
  rcases seqStep_some.1 h with hp | ⟨y, xs, t0, l, _, hl, hpq⟩
  · exact absurd rfl ((seqPre_eq_iff.1 hp).inl_not_valid w)
  · obtain ⟨hrn, hes, hw⟩ := finishSeq_valid.1 (Prod.mk.inj hpq).1.symm
    refine ⟨l.ws, hw, fun w' hw' => ?_⟩
    obtain ⟨hh, hx⟩ := hl.valid_payloads rfl hrn hes w' hw'
    exact ⟨fun hk => hh (by simp [hk]), hx⟩

/-- **C17, sequences**: a container `v` whose elements `es` re-build it (`k.build es = v`) is accepted
    unchanged, provided gate and container predicates let it through and its elements are fixed points of
    the item validator (hashable, for a set) -/
theorem C17_seq_fixed (k : SeqKind) (o : Oracle) (m : Mode) (vid : Nat) (ps aps : List Pred) (c : Option CoerceK)
    (ev : Ev1) (v : PyVal) (es : List PyVal) (hit : pyIter v = some es) (hbuild : k.build es = v)
    (hguard : ¬ (m = .sync ∧ aps ≠ [])) (hgate : gate o k.gateTy k.destTy c v = .acc v [])
    (hpreds : ∃ t1, contPreds m ps aps v = ([], t1, none))
    (hitems : ∀ w ∈ es, (k = .set → hashable w = true) ∧ ∃ t, ev w = some (.valid w, t)) :
    ∃ t, seqStep k o m vid ps aps c ev v = some (.valid v, t) := by
  obtain ⟨t1, hp⟩ := hpreds
  have hpre : seqPre k o m vid ps aps c v = .inr (v, es, [] ++ t1) :=
    (C03_pre_iff ..).2 ⟨hguard, [], t1, hgate, hp, hit, rfl⟩
  obtain ⟨t2, hl⟩ := loopItems_fixed ev (k == .set) es 0
    (fun w hw => ⟨fun hk => (hitems w hw).1 (by simpa using hk), (hitems w hw).2⟩)
  refine ⟨([] ++ t1) ++ t2, ?_⟩
  simp only [seqStep, hpre, hl, finishSeq, List.isEmpty_nil, if_true, hbuild]

/-- **C17, lists**: the list a `ListValidator` built is accepted by it unchanged, provided the container
    predicates hold of it and its elements are fixed points of the item validator -/
theorem C17_list_fixed (o : Oracle) (m : Mode) (vid : Nat) (ps aps : List Pred) (ev : Ev1) (ws : List PyVal)
    (hguard : ¬ (m = .sync ∧ aps ≠ []))
    (hpreds : ∃ t1, contPreds m ps aps (.list 0 ws) = ([], t1, none))
    (hitems : ∀ w ∈ ws, ∃ t, ev w = some (.valid w, t)) :
    ∃ t, seqStep .list o m vid ps aps none ev (.list 0 ws) = some (.valid (.list 0 ws), t) :=
  C17_seq_fixed .list o m vid ps aps none ev (.list 0 ws) ws rfl rfl hguard rfl hpreds
    (fun w hw => ⟨fun hk => (by cases hk), hitems w hw⟩)

/-- **C17, uniform tuples** (default coercer: a tuple passes unchanged) -/
theorem C17_utuple_fixed (o : Oracle) (m : Mode) (vid : Nat) (ps aps : List Pred) (ev : Ev1) (ws : List PyVal)
    (hguard : ¬ (m = .sync ∧ aps ≠ []))
    (hpreds : ∃ t1, contPreds m ps aps (.tuple 0 ws) = ([], t1, none))
    (hitems : ∀ w ∈ ws, ∃ t, ev w = some (.valid w, t)) :
    ∃ t, seqStep .utuple o m vid ps aps (some .dflt) ev (.tuple 0 ws) = some (.valid (.tuple 0 ws), t) :=
  C17_seq_fixed .utuple o m vid ps aps (some .dflt) ev (.tuple 0 ws) ws rfl rfl hguard rfl hpreds
    (fun w hw => ⟨fun hk => (by cases hk), hitems w hw⟩)

theorem C17_none (o : Oracle) (vid : Nat) : noneStep o vid none .none = (.valid .none, []) := rfl

theorem C17_isDict (vid : Nat) (x : PyVal) (h : x.baseTy = .dict) : isDictStep vid x = (.valid x, []) := by
  simp [isDictStep, h]

example : ∃ t', scalarStep default .sync 1 .str none [⟨1, .strip⟩] [⟨2, .minLength 1⟩] [] (.str [97]) = (.valid (.str [97]), t') :=
  ⟨_, rfl⟩

end Koda
