/-
  C16 — the default coercers *as written in /repo's current source*.

  `Generated/CoerceSrc.lean` is rewritten on every run by `harness/pysrc.py` from the AST of every
  function decorated with `@coercer(…)`.  For each of the five default coercers: running the
  translated body is the model's `defaultCoerce` — for every oracle (stdlib parser) and every value,
  and no exception escapes (`src_coerce_*`); the decorator's compatible types are the model's
  `defaultCompat` (`src_compat`); `src_coercer_names` pins the inventory.
-/
import KodaModel.Generated.CoerceSrc

namespace Koda

-- derives the interpreter's equations once for the file instead of once in every proof that unfolds it
attribute [local simp] CStmt.run

def runCoercer (o : Oracle) (name : String) (x : PyVal) : Except String (Option (Option PyVal)) :=
  (lookupCoerce Src.coercers name).2.run o x

theorem baseTy_unsub : ∀ x : PyVal, x.baseTy = x.unsub.ty
  | .sub _ v => by simp only [PyVal.baseTy, PyVal.unsub]; exact baseTy_unsub v
  | .none => rfl | .bool _ => rfl | .int _ => rfl | .float _ => rfl | .str _ => rfl | .bytes _ => rfl
  | .decimal _ => rfl | .uuid _ => rfl | .date _ => rfl | .datetime _ _ => rfl | .list _ _ => rfl
  | .tuple _ _ => rfl | .set _ _ => rfl | .dict _ _ => rfl | .just _ _ => rfl | .nothing => rfl
  | .inst .. => rfl

theorem src_coerce_decimal (o : Oracle) (x : PyVal) :
    runCoercer o "coerce_decimal" x = .ok (some (defaultCoerce o .decimal x)) := by
  simp only [runCoercer, Src.coercers, lookupCoerce, String.reduceEq, ↓reduceIte, CStmt.run, CTest.eval, defaultCoerce,
    beq_iff_eq]
  by_cases hty : x.ty = .decimal
  · simp only [hty, if_true]
  · simp only [hty, List.any_cons, List.any_nil, Bool.or_false, isInstOf, baseTy_unsub, callCtor, strLike,
      intLike, ↓reduceIte]
    cases x.unsub with
    | str s => cases hd : o.decimal s <;> simp [PyVal.ty, hd]
    | _ => rfl

theorem callCtor_uuid (o : Oracle) (x : PyVal) : callCtor o "UUID" x =
    (match strLike x with
     | some s => (match o.uuid s with | some d => .ok d | none => .error "ValueError")
     | none => .error "AttributeError") := by
  simp only [callCtor, String.reduceEq, ↓reduceIte]
  rfl

theorem callCtor_date (o : Oracle) (x : PyVal) : callCtor o "date.fromisoformat" x =
    (match strLike x with
     | some s => (match o.date s with | some d => .ok d | none => .error "ValueError")
     | none => .error "TypeError") := by
  simp only [callCtor, String.reduceEq, ↓reduceIte]
  rfl

theorem callCtor_datetime (o : Oracle) (x : PyVal) : callCtor o "datetime.fromisoformat" x =
    (match strLike x with
     | some s => (match o.datetime s with | some d => .ok d | none => .error "ValueError")
     | none => .error "TypeError") := by
  simp only [callCtor, String.reduceEq, ↓reduceIte]
  rfl

theorem src_coerce_uuid (o : Oracle) (x : PyVal) :
    runCoercer o "coerce_uuid" x = .ok (some (defaultCoerce o .uuid x)) := by
  simp only [runCoercer, Src.coercers, lookupCoerce, String.reduceEq, ↓reduceIte]
  cases x with
  | str s =>
    simp only [CStmt.run, CTest.eval, PyVal.ty, callCtor_uuid, strLike, PyVal.unsub, defaultCoerce]
    cases o.uuid s <;> rfl
  | _ => rfl

/-- `if type(val) is T: return Just(val)` / `try: return Just(ctor(val))  except excs: return nothing` -/
theorem run_parse (o : Oracle) (x : PyVal) (t : Ty) (ctor : String) (excs : List String) (parse : List Nat → Option PyVal)
    (e1 e2 : String)
    (hc : callCtor o ctor x = (match strLike x with
      | some s => (match parse s with | some d => .ok d | none => .error e1)
      | none => .error e2))
    (h1 : excs.contains e1 = true) (h2 : excs.contains e2 = true) :
    (CStmt.ite (.typeIs t) .retJustVal (.tryRetJust ctor excs .retNothing)).run o x =
      .ok (some (if x.ty = t then some x else match strLike x with | some s => parse s | none => none)) := by
  simp only [CStmt.run, CTest.eval, beq_iff_eq, hc]
  split
  · rfl
  · cases strLike x with
    | none => simp only [h2, if_true]
    | some s => cases hp : parse s <;> simp only [hp, h1, if_true]

theorem src_coerce_date (o : Oracle) (x : PyVal) :
    runCoercer o "coerce_date" x = .ok (some (defaultCoerce o .date x)) := by
  simp only [runCoercer, Src.coercers, lookupCoerce, ↓reduceIte]
  exact run_parse o x .date _ _ o.date _ _ (callCtor_date o x) (by simp) (by simp)

theorem src_coerce_datetime (o : Oracle) (x : PyVal) :
    runCoercer o "coerce_datetime" x = .ok (some (defaultCoerce o .datetime x)) := by
  simp only [runCoercer, Src.coercers, lookupCoerce, String.reduceEq, ↓reduceIte]
  exact run_parse o x .datetime _ _ o.datetime _ _ (callCtor_datetime o x) (by simp) (by simp)

theorem src_tuple_or_list_to_tuple (o : Oracle) (x : PyVal) :
    runCoercer o "tuple_or_list_to_tuple" x = .ok (some (defaultCoerce o .tuple x)) := by
  simp only [runCoercer, Src.coercers, lookupCoerce, String.reduceEq, ↓reduceIte]
  cases x <;> rfl

/-- the decorators' compatible types are the ones the model reports in coercion errors -/
theorem src_compat :
    (lookupCoerce Src.coercers "coerce_decimal").1 = defaultCompat .decimal ∧
    (lookupCoerce Src.coercers "coerce_uuid").1 = defaultCompat .uuid ∧
    (lookupCoerce Src.coercers "coerce_date").1 = defaultCompat .date ∧
    (lookupCoerce Src.coercers "coerce_datetime").1 = defaultCompat .datetime ∧
    (lookupCoerce Src.coercers "tuple_or_list_to_tuple").1 = defaultCompat .tuple := by
  simp only [Src.coercers, lookupCoerce, String.reduceEq, ↓reduceIte, defaultCompat, and_self]

/-- exactly these functions are decorated with `@coercer` -/
theorem src_coercer_names : Src.coercers.map (fun c => c.1) =
    ["coerce_date", "coerce_datetime", "coerce_decimal", "coerce_uuid", "tuple_or_list_to_tuple"] := rfl

end Koda
