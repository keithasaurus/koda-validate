/-
  C04 — Record validators: required / optional / unknown keys and complete key errors.
  One set of theorems for all five record-shaped validators (`cfg.kind`), both modes,
  arbitrary child evaluators.
-/
import KodaModel.Lemmas.Mono

namespace Koda

/-- `RecRun vid dv data evs keys reqs got ks errs t`: going through the declared keys in order —
    * absent and required: `MissingKeyErr` holding the dict being validated, naming this validator;
    * absent and optional: nothing (payload slot `none`), the child is not consulted;
    * present: the child is run on `data[key]`; its payload, or its own `Invalid`, is recorded.
    `ks`/`errs` list *exactly* the missing-required and present-invalid keys. -/
inductive RecRun (vid : Nat) (dv : PyVal) (data : List (PyVal × PyVal)) :
    List Ev1 → List PyVal → List Bool → List (Option PyVal) → List PyVal → List Inv → List Ev → Prop
  | nil : RecRun vid dv data [] [] [] [] [] [] []
  | missing {ev evs k ks' reqs got ks errs t} : dictGet data k = none →
      RecRun vid dv data evs ks' reqs got ks errs t →
      RecRun vid dv data (ev :: evs) (k :: ks') (true :: reqs) (none :: got) (k :: ks)
        (.mk .missingKey dv vid [] :: errs) t
  | absentOpt {ev evs k ks' reqs got ks errs t} : dictGet data k = none →
      RecRun vid dv data evs ks' reqs got ks errs t →
      RecRun vid dv data (ev :: evs) (k :: ks') (false :: reqs) (none :: got) ks errs t
  | valid {ev evs k ks' req reqs got ks errs t xv w t0} : dictGet data k = some xv →
      ev xv = some (.valid w, t0) → RecRun vid dv data evs ks' reqs got ks errs t →
      RecRun vid dv data (ev :: evs) (k :: ks') (req :: reqs) (some w :: got) ks errs (t0 ++ t)
  | invalid {ev evs k ks' req reqs got ks errs t xv e t0} : dictGet data k = some xv →
      ev xv = some (.invalid e, t0) → RecRun vid dv data evs ks' reqs got ks errs t →
      RecRun vid dv data (ev :: evs) (k :: ks') (req :: reqs) (none :: got) (k :: ks) (e :: errs) (t0 ++ t)

theorem RecRun.recL {vid dv data evs keys reqs got ks errs t}
    (h : RecRun vid dv data evs keys reqs got ks errs t) :
    RecL vid dv data evs keys reqs ⟨got, ks, errs, t, none⟩ := by
  induction h with
  | nil => exact .done (.inl rfl)
  | missing hd _ ih => exact .missing hd ih
  | absentOpt hd _ ih => exact .absent hd ih
  | valid hd hx _ ih => exact .valid hd hx ih
  | invalid hd hx _ ih => exact .invalid hd hx ih

theorem RecL.run {vid dv data evs keys reqs r} (h : RecL vid dv data evs keys reqs r)
    (h1 : evs.length = keys.length) (h2 : keys.length = reqs.length) (hr : r.r = none) :
    RecRun vid dv data evs keys reqs r.got r.ks r.errs r.t := by
  induction h with
  | @done evs keys reqs h =>
    -- one of the three lists is empty, so all are
    rcases h with rfl | rfl | rfl
    · cases List.length_eq_zero_iff.1 h1.symm; cases List.length_eq_zero_iff.1 h2.symm; exact .nil
    · cases List.length_eq_zero_iff.1 h1; cases List.length_eq_zero_iff.1 h2.symm; exact .nil
    · cases List.length_eq_zero_iff.1 h2; cases List.length_eq_zero_iff.1 h1; exact .nil
  | missing hd _ ih => exact .missing hd (ih (Nat.succ.inj h1) (Nat.succ.inj h2) hr)
  | absent hd _ ih => exact .absentOpt hd (ih (Nat.succ.inj h1) (Nat.succ.inj h2) hr)
  | raised => cases hr
  | valid hd hx _ ih => exact .valid hd hx (ih (Nat.succ.inj h1) (Nat.succ.inj h2) hr)
  | invalid hd hx _ ih => exact .invalid hd hx (ih (Nat.succ.inj h1) (Nat.succ.inj h2) hr)

theorem recLoop_of_run {vid dv data evs keys reqs got ks errs t}
    (h : RecRun vid dv data evs keys reqs got ks errs t) :
    recLoop vid dv data evs keys reqs = some ⟨got, ks, errs, t, none⟩ :=
  h.recL.loop

theorem recLoop_to_run {vid dv data} : ∀ {evs keys reqs got ks errs t},
    evs.length = keys.length → keys.length = reqs.length →
    recLoop vid dv data evs keys reqs = some ⟨got, ks, errs, t, none⟩ →
    RecRun vid dv data evs keys reqs got ks errs t :=
  fun h1 h2 h => (RecL.of_loop h).run h1 h2 rfl

theorem RecRun.errs_length {vid dv data evs keys reqs got ks errs t}
    (h : RecRun vid dv data evs keys reqs got ks errs t) :
    ks.length = errs.length ∧ got.length = keys.length := by
  induction h with
  | nil => simp
  | missing _ _ ih => simp [ih.1, ih.2]
  | absentOpt _ _ ih => simp [ih.1, ih.2]
  | valid _ _ _ ih => simp [ih.1, ih.2]
  | invalid _ _ _ ih => simp [ih.1, ih.2]

theorem RecRun.no_errs_iff {vid dv data evs keys reqs got ks errs t}
    (h : RecRun vid dv data evs keys reqs got ks errs t) :
    ks = [] ↔ errs = [] := by
  have := h.errs_length.1
  constructor
  · intro h'
    subst h'
    exact List.eq_nil_of_length_eq_zero (by simpa using this.symm)
  · intro h'
    subst h'
    exact List.eq_nil_of_length_eq_zero (by simpa using this)

/-- **decided before any value is validated**: when guard, gate or the unknown-key scan decides,
    the result does not depend on the children at all. -/
theorem C04_pre_first {o m vid cfg x r} (h : recPre o m vid cfg x = .inl r) (evs : List Ev1) :
    recordStep o m vid cfg evs x = some r := by
  simp [recordStep, h]

theorem C04_pre_iff (o : Oracle) (m : Mode) (vid : Nat) (cfg : RecCfg) (x y : PyVal)
    (data : List (PyVal × PyVal)) (t : List Ev) :
    recPre o m vid cfg x = .inr (y, data, t) ↔
      ¬ (m = .sync ∧ cfg.aoc.isSome) ∧ recGate o cfg x = .acc y t ∧ dictItems y = some data ∧
      ¬ (cfg.failUnknown = true ∧ hasUnknownKey cfg.keys data = true) :=
  recPre_eq_iff.trans RecPre.inr_iff

/-- **unknown keys**: when forbidden and present, the error reports the declared key set, holds the
    dict being validated and is produced whatever the children are -/
theorem C04_unknown_first (o : Oracle) (m : Mode) (vid : Nat) (cfg : RecCfg) (x y : PyVal)
    (data : List (PyVal × PyVal)) (t : List Ev) (evs : List Ev1)
    (hg : ¬ (m = .sync ∧ cfg.aoc.isSome)) (hgate : recGate o cfg x = .acc y t)
    (hd : dictItems y = some data) (hf : cfg.failUnknown = true) (hu : hasUnknownKey cfg.keys data = true) :
    recordStep o m vid cfg evs x = some (.invalid (.mk (.extraKeys cfg.keys) y vid []), t) := by
  simp [recordStep, recPre, hg, hgate, hd, hf, hu]

theorem C04_gate_record (o : Oracle) (cfg : RecCfg) (x : PyVal) (hk : cfg.kind = .record) :
    recGate o cfg x = if x.baseTy = .dict then .acc x [] else .rej (.type .dict) [] := by
  simp [recGate, hk]

theorem C04_gate_dictAny (o : Oracle) (cfg : RecCfg) (x : PyVal) (hk : cfg.kind = .dictAny) :
    recGate o cfg x = if x.ty = .dict then .acc x [] else .rej (.type .dict) [] := by
  simp [recGate, hk]

theorem C04_gate_typeddict (o : Oracle) (cfg : RecCfg) (x : PyVal) (hk : cfg.kind = .typeddict)
    (hc : cfg.coerce = none) :
    recGate o cfg x = if x.ty = .dict then .acc x [] else .rej (.type .dict) [] := by
  simp [recGate, hk, hc]

/-- dataclass / named-tuple validators: a plain dict passes as it is -/
theorem C04_gate_class_dict (o : Oracle) (cfg : RecCfg) (x : PyVal)
    (hk : cfg.kind = .dataclass ∨ cfg.kind = .namedtuple) (hc : cfg.coerce = none) (hx : x.ty = .dict) :
    recGate o cfg x = .acc x [] := by
  rcases hk with hk | hk <;> simp [recGate, hk, hc, hx]

/-- … and what is neither a dict nor an instance of the target class is a coercion error naming {dict, class}
    (an instance of *exactly* the target class is read through its fields: the remaining arm of `recGate`) -/
theorem C04_gate_class_other (o : Oracle) (cfg : RecCfg) (x : PyVal)
    (hk : cfg.kind = .dataclass ∨ cfg.kind = .namedtuple) (hc : cfg.coerce = none) (hx : x.ty ≠ .dict)
    (hi : x.ty ≠ .cls cfg.cls) :
    recGate o cfg x = .rej (.coercion [.dict, .cls cfg.cls] (.cls cfg.cls)) [] := by
  rcases hk with hk | hk <;>
  · simp only [recGate, hk, hc, hx, if_false]
    -- only an instance is looked at more closely, and `x` is not one of the target class
    split
    · exact if_neg fun h => hi (congrArg Ty.cls h)
    · rfl

theorem recordStep_inr {o m vid cfg x y data t0} (hp : recPre o m vid cfg x = .inr (y, data, t0))
    (evs : List Ev1) :
    recordStep o m vid cfg evs x =
      (recLoop vid y data evs cfg.keys cfg.reqs).map (recFinish m vid cfg y t0) := by
  simp only [recordStep, hp]
  cases recLoop vid y data evs cfg.keys cfg.reqs <;> rfl

/-- **key errors are complete and exact**: if some key fails, the result is `KeyErrs` with exactly
    the failing keys (`RecRun`), each holding the child's own `Invalid` (or `MissingKeyErr`), on the
    dict being validated; **the whole-object check is not run** (the trace ends with the key loop) -/
theorem C04_keyerrs_exact (o : Oracle) (m : Mode) (vid : Nat) (cfg : RecCfg) (evs : List Ev1)
    (x y : PyVal) (data : List (PyVal × PyVal)) (t0 : List Ev)
    (hp : recPre o m vid cfg x = .inr (y, data, t0))
    {got ks errs t1} (hrun : RecRun vid y data evs cfg.keys cfg.reqs got ks errs t1) (hne : ks ≠ []) :
    recordStep o m vid cfg evs x = some (.invalid (.mk (.keys ks) y vid errs), t0 ++ t1) := by
  rw [recordStep_inr hp, recLoop_of_run hrun]
  cases ks with
  | nil => exact absurd rfl hne
  | cons k ks => simp [recFinish]

/-- **acceptance and payload**: all keys pass → the object is built by `recBuild` from the
    children's payloads *only* (its arguments do not include the input), then the whole-object
    check(s) run **last** — sync check, then (async mode) the async check. -/
theorem C04_all_keys_ok (o : Oracle) (m : Mode) (vid : Nat) (cfg : RecCfg) (evs : List Ev1)
    (x y : PyVal) (data : List (PyVal × PyVal)) (t0 : List Ev)
    (hp : recPre o m vid cfg x = .inr (y, data, t0))
    {got errs t1} (hrun : RecRun vid y data evs cfg.keys cfg.reqs got [] errs t1) :
    recordStep o m vid cfg evs x = some (recFinish m vid cfg y t0 ⟨got, [], errs, t1, none⟩) := by
  rw [recordStep_inr hp, recLoop_of_run hrun]; rfl

/-- no object checks configured: accepted with the built object -/
theorem C04_accept_no_oc (o : Oracle) (m : Mode) (vid : Nat) (cfg : RecCfg) (evs : List Ev1)
    (x y : PyVal) (data : List (PyVal × PyVal)) (t0 : List Ev)
    (hp : recPre o m vid cfg x = .inr (y, data, t0))
    {got errs t1} (hrun : RecRun vid y data evs cfg.keys cfg.reqs got [] errs t1)
    (h1 : cfg.oc = none) (h2 : cfg.aoc = none) :
    ∃ ti, recordStep o m vid cfg evs x = some (.valid (recBuild cfg got), t0 ++ t1 ++ ti) := by
  rw [C04_all_keys_ok o m vid cfg evs x y data t0 hp hrun]
  refine ⟨if cfg.kind = .record then [Ev.into cfg.intoId] else [], ?_⟩
  cases m <;> simp [recFinish, runObjCheck, runAObjCheck, h1, h2]

/-- a failing whole-object check rejects with its error on the *built* object -/
theorem C04_objcheck_fails (o : Oracle) (m : Mode) (vid : Nat) (cfg : RecCfg) (evs : List Ev1)
    (x y : PyVal) (data : List (PyVal × PyVal)) (t0 : List Ev)
    (hp : recPre o m vid cfg x = .inr (y, data, t0))
    {got errs t1} (hrun : RecRun vid y data evs cfg.keys cfg.reqs got [] errs t1)
    (c : ObjCheck) (h1 : cfg.oc = some c) (e : Nat) (he : c.f (recBuild cfg got) = some e) :
    ∃ t, recordStep o m vid cfg evs x =
      some (.invalid (.mk (.custom e) (recBuild cfg got) vid []), t) := by
  rw [C04_all_keys_ok o m vid cfg evs x y data t0 hp hrun]
  simp only [recFinish, runObjCheck, h1, he, List.isEmpty_nil, Bool.not_true, Bool.false_eq_true, if_false]
  exact ⟨_, rfl⟩

/-- **payload shapes**: `DictValidatorAny` / `TypedDictValidator` build a new dict of exactly the
    present declared keys (absent optional keys omitted, nothing undeclared) -/
theorem C04_payload_dict (cfg : RecCfg) (got : List (Option PyVal))
    (hk : cfg.kind = .dictAny ∨ cfg.kind = .typeddict) :
    recBuild cfg got =
      .dict 0 ((cfg.keys.zip got).filterMap (fun kg => kg.2.map (fun w => (kg.1, w)))) := by
  rcases hk with hk | hk <;> simp [recBuild, hk]

/-- `RecordValidator` calls its target with one argument per declared key: the payload, or
    `nothing` for an absent optional key -/
theorem C04_payload_record (cfg : RecCfg) (got : List (Option PyVal)) (hk : cfg.kind = .record) :
    recBuild cfg got = cfg.into (got.map (fun g => g.getD .nothing)) := by
  simp [recBuild, hk]

/-- dataclass / named-tuple validators construct the class from the present keys' payloads; absent
    (defaulted) fields take the class's declared default as is -/
theorem C04_payload_class (cfg : RecCfg) (got : List (Option PyVal))
    (hk : cfg.kind = .dataclass ∨ cfg.kind = .namedtuple) :
    recBuild cfg got =
      construct cfg ((cfg.keys.zip got).filterMap (fun kg => kg.2.map (fun w => (kg.1, w)))) := by
  rcases hk with hk | hk <;> simp [recBuild, hk]

theorem C04_run (o : Oracle) (env : Nat → V) (m : Mode) (n vid : Nat) (cfg : RecCfg) (vs : List V) (x : PyVal) :
    run o env m (n + 1) (.record vid cfg vs) x = recordStep o m vid cfg (vs.map (run o env m n)) x := rfl

end Koda
