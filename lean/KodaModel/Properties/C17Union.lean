/-
  C17 for unions, optionals, n-tuples, Maybe and user-written wrappers.

  A union re-validates its own payload from the first variant again.  If every variant that rejected
  the input also rejects the payload, and the variant that accepted has the payload as a fixed point,
  the union returns the payload unchanged (`C17_union_fixed_partial`).  Without the first hypothesis
  the statement is false of the code (finding D25): `D25_witness` is a union of two string validators (built-in
  processors only) whose payload comes back changed.
-/
import KodaModel.Properties.C05
import KodaModel.Properties.C17

namespace Koda

theorem AllReject_transfer {x w : PyVal} : ∀ {pre : List Ev1} {es : List Inv} {t : List Ev},
    AllReject x pre es t →
    (∀ ev ∈ pre, (∃ e t, ev x = some (.invalid e, t)) → ∃ e' t', ev w = some (.invalid e', t')) →
    ∃ es' t', AllReject w pre es' t' := by
  intro pre es t h
  induction h with
  | nil => intro _; exact ⟨[], [], .nil⟩
  | @cons ev evs e es t t' hev _ ih =>
    intro hrej
    obtain ⟨e', t1, h1⟩ := hrej ev (by simp) ⟨e, t, hev⟩
    obtain ⟨es', t2, h2⟩ := ih (fun ev' hm => hrej ev' (by simp [hm]))
    exact ⟨e' :: es', t1 ++ t2, .cons h1 h2⟩

/-- **C17, unions (partial: finding D25 violates the no-takeover hypothesis `hrej`)** -/
theorem C17_union_fixed_partial {x w : PyVal} {vid : Nat} {evs : List Ev1} {t : List Ev}
    (h : unionStep vid evs x = some (.valid w, t))
    (hrej : ∀ ev ∈ evs, (∃ e t, ev x = some (.invalid e, t)) → ∃ e' t', ev w = some (.invalid e', t'))
    (hfix : ∀ ev ∈ evs, (∃ t, ev x = some (.valid w, t)) → ∃ t', ev w = some (.valid w, t')) :
    ∃ t', unionStep vid evs w = some (.valid w, t') := by
  obtain ⟨pre, ev, post, es, t1, tw, rfl, hpre, hev, _⟩ := C05_union_valid_inv h
  obtain ⟨es', t1', hpre'⟩ := AllReject_transfer hpre (fun ev' hm => hrej ev' (by simp [hm]))
  obtain ⟨tw', hev'⟩ := hfix ev (by simp) ⟨tw, hev⟩
  exact ⟨t1' ++ tw', C05_union_first hpre' hev' post vid⟩

/-- **C17, optionals**: `None` comes back as `None`; any other payload of the inner validator comes back
    unchanged when it is the inner validator's fixed point (the `None` validator rejects everything
    that is not `None`, so no takeover is possible) -/
theorem C17_optional_fixed (o : Oracle) (nvid vid : Nat) (ev : Ev1) (x w : PyVal) (t : List Ev)
    (h : unionStep vid [fun y => some (noneStep o nvid none y), ev] x = some (.valid w, t))
    (hfix : (∃ t, ev x = some (.valid w, t)) → ∃ t', ev w = some (.valid w, t')) :
    ∃ t', unionStep vid [fun y => some (noneStep o nvid none y), ev] w = some (.valid w, t') := by
  by_cases hwn : w = .none
  · subst hwn
    exact ⟨[], rfl⟩
  · -- `w` is not `None`: the None validator rejected `x` as it will reject `w`, and `ev` accepted `x` with `w`
    have hnw := (C02_none o nvid w).2 hwn
    obtain ⟨q, hq, hp⟩ := unionStep_some.1 h
    cases hq with
    | raised ha => cases hp
    | valid ha =>
      cases hp
      obtain ⟨_, rfl, _⟩ := (noneStep_valid_iff o nvid x _ _).1 (Option.some.inj ha)
      exact absurd rfl hwn
    | invalid ha hrest =>
      cases hrest with
      | raised hb => cases hp
      | valid hb =>
        cases hp
        obtain ⟨t', hw⟩ := hfix ⟨_, hb⟩
        exact ⟨[] ++ t', unionStep_some.2 ⟨_, .invalid (congrArg some hnw) (.valid hw), rfl⟩⟩
      | invalid hb hnil => cases hnil; cases hp

theorem Fields.fixed : ∀ (evs : List Ev1) (ws : List PyVal) (i : Nat), evs.length = ws.length →
    (∀ p ∈ evs.zip ws, ∃ t, p.1 p.2 = some (.valid p.2, t)) →
    ∃ t, Fields evs ws i ⟨ws, [], t, none⟩
  | [], [], i, _, _ => ⟨[], .done i (.inl rfl)⟩
  | [], _ :: _, i, h, _ => nomatch h
  | _ :: _, [], i, h, _ => nomatch h
  | ev :: evs, w :: ws, i, h, hf => by
    obtain ⟨t0, h0⟩ := hf (ev, w) List.mem_cons_self
    obtain ⟨t1, h1⟩ := Fields.fixed evs ws (i + 1) (Nat.succ.inj h) (fun p hp => hf p (List.mem_cons_of_mem _ hp))
    exact ⟨t0 ++ t1, .valid (show ev w = _ from h0) h1⟩

/-- **C17, n-tuples** (default coercer, no whole-object check): the tuple an `NTupleValidator` built is
    accepted by it unchanged when each slot's payload is a fixed point of its field validator -/
theorem C17_ntuple_fixed (o : Oracle) (vid lp : Nat) (evs : List Ev1) (ws : List PyVal)
    (hlen : evs.length = ws.length)
    (hitems : ∀ p ∈ evs.zip ws, ∃ t, p.1 p.2 = some (.valid p.2, t)) :
    ∃ t, ntupleStep o vid none (some .dflt) lp evs (.tuple 0 ws) = some (.valid (.tuple 0 ws), t) := by
  obtain ⟨t, hl⟩ := Fields.fixed evs ws 0 hlen hitems
  have hpre : ntuplePre o vid (some .dflt) lp evs.length (.tuple 0 ws) = .inr (.tuple 0 ws, ws, []) :=
    ntuplePre_eq_iff.2 (.pass rfl (congrArg some hlen.symm) rfl)
  exact ⟨_, ntupleStep_some.2 (.inr ⟨_, _, _, _, hpre, hl, rfl⟩)⟩

theorem FieldsRun_payloads : ∀ {evs : List Ev1} {xs : List PyVal} {i : Nat} {ws : List PyVal} {t : List Ev},
    FieldsRun evs xs i ws [] t → evs.length = ws.length ∧ ∀ p ∈ evs.zip ws, ∃ x u, p.1 x = some (.valid p.2, u) := by
  intro evs xs i ws t h
  generalize hes : ([] : List (Nat × Inv)) = es at h
  induction h with
  | nil => simp
  | @valid ev evs x xs i w ws es t t' hx _ ih =>
    obtain ⟨hl, hall⟩ := ih hes
    refine ⟨by simp [hl], ?_⟩
    intro p hp
    simp only [List.zip_cons_cons, List.mem_cons] at hp
    rcases hp with rfl | hp
    · exact ⟨x, t, hx⟩
    · exact hall p hp
  | invalid => simp at hes

theorem gate_dflt_tuple (o : Oracle) (x y : PyVal) (t : List Ev)
    (h : gate o .tuple .list (some .dflt) x = .acc y t) : ∃ oid l, y = .tuple oid l := by
  simp only [gate, applyCoerce, defaultCoerce] at h
  cases x <;> simp at h
  · exact ⟨_, _, h.1.symm⟩
  · exact ⟨_, _, h.1.symm⟩

theorem ntupleStep_dflt_valid_inv {o : Oracle} {vid : Nat} {oc : Option ObjCheck} {lp : Nat} {evs : List Ev1}
    {x w : PyVal} {t : List Ev} (h : ntupleStep o vid oc (some .dflt) lp evs x = some (.valid w, t)) :
    ∃ xs ws t1, FieldsRun evs xs 0 ws [] t1 ∧ w = .tuple 0 ws := by
  cases hp : ntuplePre o vid (some .dflt) lp evs.length x with
  | inl r =>
    simp only [ntupleStep, hp, Option.some.injEq] at h
    exact absurd (by rw [h]) ((ntuplePre_eq_iff.1 hp).inl_not_valid w)
  | inr q =>
    obtain ⟨y, xs, t0⟩ := q
    have hlen : evs.length = xs.length := by
      obtain ⟨hg, hn, hit⟩ := (C03_ntuple_pre_iff o vid (some .dflt) lp _ x y xs t0).1 hp
      obtain ⟨oid, l, rfl⟩ := gate_dflt_tuple o x y t0 hg
      simp only [pyLen, pyIter, Option.some.injEq] at hn hit
      subst hit
      exact hn.symm
    obtain ⟨ws, t1, hrun, hw, _⟩ := (C03_ntuple_accept_iff o vid oc (some .dflt) lp evs x y xs t0 hp hlen w t).1 h
    exact ⟨xs, ws, t1, hrun, hw⟩

theorem ntupleStep_payloadsFixed (o : Oracle) (vid lp : Nat) {evs : List Ev1} (hevs : ∀ ev ∈ evs, PayloadsFixed ev) :
    PayloadsFixed (ntupleStep o vid none (some .dflt) lp evs) := by
  intro x w t h
  obtain ⟨xs, ws, t1, hrun, rfl⟩ := ntupleStep_dflt_valid_inv h
  obtain ⟨hl, hall⟩ := FieldsRun_payloads hrun
  refine C17_ntuple_fixed o vid lp evs ws hl (fun p hp => ?_)
  obtain ⟨x', u, hx'⟩ := hall p hp
  exact hevs p.1 (List.of_mem_zip hp).1 x' p.2 u hx'

theorem maybeStep_valid_inv {vid : Nat} {ev : Ev1} {x w : PyVal} {t : List Ev}
    (h : maybeStep vid ev x = some (.valid w, t)) :
    (x = .nothing ∧ w = .nothing) ∨ ∃ oid v w', x = .just oid v ∧ w = .just 0 w' ∧ ev v = some (.valid w', t) := by
  unfold maybeStep at h
  split at h
  · simp only [Option.some.injEq, Prod.mk.injEq, Out.valid.injEq] at h
    exact .inl ⟨rfl, h.1.symm⟩
  · split at h <;> simp only [Option.some.injEq, Prod.mk.injEq, Out.valid.injEq, reduceCtorEq, false_and] at h
    rename_i hv
    obtain ⟨rfl, rfl⟩ := h
    exact .inr ⟨_, _, _, rfl, rfl, hv⟩
  · simp at h

theorem maybeStep_payloadsFixed (vid : Nat) {ev : Ev1} (hev : PayloadsFixed ev) : PayloadsFixed (maybeStep vid ev) := by
  intro x w t h
  rcases maybeStep_valid_inv h with ⟨_, rfl⟩ | ⟨oid, v, w', _, rfl, hv⟩
  · exact ⟨[], rfl⟩
  · obtain ⟨t', ht'⟩ := hev v w' t hv
    exact ⟨t', by rw [maybeStep_just, ht']; rfl⟩

theorem userStep_payloadsFixed (vid : Nat) (m : Mode) {ev : Ev1} (hev : PayloadsFixed ev) :
    PayloadsFixed (userStep vid m ev) := by
  intro x w t h
  rw [userStep_eq, Option.map_eq_some_iff] at h
  obtain ⟨⟨out, u⟩, hx, hp⟩ := h
  cases hp
  obtain ⟨t', ht'⟩ := hev x w u hx
  exact ⟨Ev.uv vid m :: t', by rw [userStep_eq, ht']; rfl⟩

/-- `UnionValidator(StringValidator(MaxLength(2), preprocessors=[upper_case]), StringValidator(preprocessors=[strip]))` -/
def d25Union : V :=
  .union 1 [.scalar 2 .str none [⟨1, .upper⟩] [⟨2, .maxLength 2⟩] [],
            .scalar 3 .str none [⟨3, .strip⟩] [] []]

/-- `" ab "` ↦ `"ab"` (second variant), and `"ab"` ↦ `"AB"` (first variant takes over) -/
theorem D25_witness :
    (run default (fun _ => .always 0) .sync 2 d25Union (.str [32, 97, 98, 32])).map (·.1) = some (.valid (.str [97, 98])) ∧
    (run default (fun _ => .always 0) .sync 2 d25Union (.str [97, 98])).map (·.1) = some (.valid (.str [65, 66])) := by
  constructor <;> rfl

end Koda
