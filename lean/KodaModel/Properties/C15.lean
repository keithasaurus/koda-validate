/-
  C15 — Built-in predicates and processors compute exactly their documented relations.

  `PredK.call` / `ProcK.call` transliterate each `__call__`; here each is related to an independent
  specification.  That the string primitives (`isSpaceStr`, ASCII case mapping, …) equal CPython's
  is established by the exhaustive correspondence stream, not here.
-/
import KodaModel.Pred

namespace Koda

theorem pyLe_of_lt {a b : PyVal} {l : Bool} (h : pyLt a b = .ok l) : pyLe a b = .ok (l || pyEq a b) := by
  cases l <;> simp [pyLe, h]

theorem pyLt_int (m x : Int) : pyLt (.int m) (.int x) = .ok (decide (m < x)) := by
  simp [pyLt, PyVal.unsub, xnum, isDecNaN, XNum.lt, Frac.lt, Frac.ofInt]

theorem pyLe_int (m x : Int) : pyLe (.int m) (.int x) = .ok (decide (m ≤ x)) := by
  have he : pyEq (.int m) (.int x) = (m == x) := by
    simp [pyEq, PyVal.unsub, numEq, xnum, XNum.eq, Frac.eq, Frac.ofInt]
  rw [pyLe_of_lt (pyLt_int m x), he]
  exact congrArg _ (Bool.eq_iff_iff.2 (by simp [Int.le_iff_lt_or_eq]))

theorem C15_min_int (m x : Int) :
    (PredK.min (.int m) false).call (.int x) = .ok (decide (m ≤ x)) ∧
    (PredK.min (.int m) true).call (.int x) = .ok (decide (m < x)) :=
  ⟨pyLe_int m x, pyLt_int m x⟩

theorem C15_max_int (m x : Int) :
    (PredK.max (.int m) false).call (.int x) = .ok (decide (x ≤ m)) ∧
    (PredK.max (.int m) true).call (.int x) = .ok (decide (x < m)) :=
  ⟨pyLe_int x m, pyLt_int x m⟩

/-- multiples on the integers: `x % f == 0` ⇔ `f` divides `x` -/
theorem C15_multipleOf_int (f x : Int) (hf : f ≠ 0) :
    (PredK.multipleOf (.int f)).call (.int x) = .ok (decide (x % f = 0)) := by
  simp only [PredK.call, modIsZero, PyVal.unsub, numFrac, Frac.ofInt, Frac.isZero, Frac.divisible]
  have : (f == 0) = false := by simpa using hf
  simp only [this, Bool.false_eq_true, if_false]
  cases h : (x % f == 0) <;> simp_all

/-- dates compare by their ordinal -/
theorem C15_min_date (m x : Nat) : (PredK.min (.date m) false).call (.date x) = .ok (decide (m ≤ x)) := by
  have he : pyEq (.date m) (.date x) = (m == x) := by simp [pyEq, PyVal.unsub]
  show pyLe _ _ = _
  rw [pyLe_of_lt (l := decide (m < x)) rfl, he]
  exact congrArg _ (Bool.eq_iff_iff.2 (by simp [Nat.le_iff_lt_or_eq]))

theorem C15_lengths (n : Int) (s : List Nat) :
    (PredK.minLength n).call (.str s) = .ok (decide ((s.length : Int) ≥ n)) ∧
    (PredK.maxLength n).call (.str s) = .ok (decide ((s.length : Int) ≤ n)) ∧
    (PredK.exactLength n).call (.str s) = .ok (decide ((s.length : Int) = n)) ∧
    (PredK.minLength n).call (.bytes s) = .ok (decide ((s.length : Int) ≥ n)) ∧
    (PredK.maxLength n).call (.bytes s) = .ok (decide ((s.length : Int) ≤ n)) ∧
    (PredK.exactLength n).call (.bytes s) = .ok (decide ((s.length : Int) = n)) :=
  ⟨rfl, rfl, rfl, rfl, rfl, rfl⟩

theorem C15_item_counts (n : Int) (oid : Nat) (xs : List PyVal) :
    (PredK.minItems n).call (.list oid xs) = .ok (decide ((xs.length : Int) ≥ n)) ∧
    (PredK.maxItems n).call (.tuple oid xs) = .ok (decide ((xs.length : Int) ≤ n)) ∧
    (PredK.exactItemCount n).call (.set oid xs) = .ok (decide ((xs.length : Int) = n)) :=
  ⟨rfl, rfl, rfl⟩

theorem C15_key_counts (n : Int) (oid : Nat) (kvs : List (PyVal × PyVal)) :
    (PredK.minKeys n).call (.dict oid kvs) = .ok (decide ((kvs.length : Int) ≥ n)) ∧
    (PredK.maxKeys n).call (.dict oid kvs) = .ok (decide ((kvs.length : Int) ≤ n)) :=
  ⟨rfl, rfl⟩

theorem isPrefix_iff (p s : List Nat) : isPrefix p s = true ↔ ∃ r, s = p ++ r := by
  induction p generalizing s with
  | nil => simp [isPrefix]
  | cons a p ih =>
    cases s with
    | nil => simp [isPrefix]
    | cons b s =>
      simp only [isPrefix, Bool.and_eq_true, beq_iff_eq, ih, List.cons_append, List.cons.injEq]
      constructor
      · rintro ⟨rfl, r, rfl⟩; exact ⟨r, rfl, rfl⟩
      · rintro ⟨r, rfl, rfl⟩; exact ⟨rfl, r, rfl⟩

theorem C15_startsWith (p s : List Nat) :
    ∃ b, (PredK.startsWith (.str p)).call (.str s) = .ok b ∧ (b = true ↔ ∃ r, s = p ++ r) ∧
         (PredK.startsWith (.bytes p)).call (.bytes s) = .ok b :=
  ⟨isPrefix p s, rfl, isPrefix_iff p s, rfl⟩

theorem C15_endsWith (p s : List Nat) :
    ∃ b, (PredK.endsWith (.str p)).call (.str s) = .ok b ∧ (b = true ↔ ∃ r, s = r ++ p) ∧
         (PredK.endsWith (.bytes p)).call (.bytes s) = .ok b := by
  refine ⟨isSuffix p s, rfl, ?_, rfl⟩
  unfold isSuffix
  rw [isPrefix_iff]
  constructor
  · rintro ⟨r, hr⟩
    exact ⟨r.reverse, by have := congrArg List.reverse hr; simpa using this⟩
  · rintro ⟨r, rfl⟩; exact ⟨r.reverse, by simp⟩

theorem dropWhile_eq_nil_iff (sp : Nat → Bool) (s : List Nat) : s.dropWhile sp = [] ↔ ∀ c ∈ s, sp c = true := by
  induction s with
  | nil => simp
  | cons a s ih =>
    simp only [List.dropWhile_cons]
    by_cases h : sp a = true
    · simp [h, ih]
    · simp [h]

/-- stripping is idempotent (for any notion of whitespace) -/
theorem dropWhile_idem (sp : Nat → Bool) (s : List Nat) : (s.dropWhile sp).dropWhile sp = s.dropWhile sp := by
  induction s with
  | nil => rfl
  | cons a s ih =>
    simp only [List.dropWhile_cons]
    by_cases h : sp a = true
    · simp [h, ih]
    · simp [h]

theorem stripWith_nil_iff (sp : Nat → Bool) (s : List Nat) : stripWith sp s = [] ↔ ∀ c ∈ s, sp c = true := by
  unfold stripWith
  rw [List.reverse_eq_nil_iff, dropWhile_eq_nil_iff]
  simp only [List.mem_reverse]
  -- what is left after the leading whitespace is all whitespace only if nothing is left
  rw [← dropWhile_eq_nil_iff sp (s.dropWhile sp), dropWhile_idem, dropWhile_eq_nil_iff]

/-- **not-blank**: true exactly on strings (bytes) containing a non-whitespace character -/
theorem C15_notBlank (s : List Nat) :
    (∃ b, PredK.notBlank.call (.str s) = .ok b ∧ (b = true ↔ ∃ c ∈ s, isSpaceStr c = false)) ∧
    (∃ b, PredK.notBlank.call (.bytes s) = .ok b ∧ (b = true ↔ ∃ c ∈ s, isSpaceBytes c = false)) := by
  have key : ∀ sp : Nat → Bool, ((!(stripWith sp s).isEmpty) = true ↔ ∃ c ∈ s, sp c = false) := fun sp => by
    simp [stripWith_nil_iff]
  exact ⟨⟨_, rfl, key isSpaceStr⟩, ⟨_, rfl, key isSpaceBytes⟩⟩

/-- `upper` / `lower` are idempotent: the image of a cased letter is not in the range that is mapped -/
theorem upperC_idem (c : Nat) : upperC (upperC c) = upperC c := by
  unfold upperC
  by_cases h : (97 ≤ c && c ≤ 122) = true
  · rw [if_pos h, if_neg]
    simp at h ⊢; omega
  · rw [if_neg h, if_neg h]

theorem lowerC_idem (c : Nat) : lowerC (lowerC c) = lowerC c := by
  unfold lowerC
  by_cases h : (65 ≤ c && c ≤ 90) = true
  · rw [if_pos h, if_neg]
    simp at h ⊢; omega
  · rw [if_neg h, if_neg h]

theorem C15_upper_idem (s : List Nat) : (s.map upperC).map upperC = s.map upperC := by
  rw [List.map_map]; exact List.map_congr_left fun c _ => upperC_idem c

theorem C15_lower_idem (s : List Nat) : (s.map lowerC).map lowerC = s.map lowerC := by
  rw [List.map_map]; exact List.map_congr_left fun c _ => lowerC_idem c

/-- processors apply exactly the documented transform, to `str` and `bytes` alike, and leave the type -/
theorem C15_processors (s : List Nat) :
    ProcK.strip.call (.str s) = .ok (.str (stripWith isSpaceStr s)) ∧
    ProcK.strip.call (.bytes s) = .ok (.bytes (stripWith isSpaceBytes s)) ∧
    ProcK.upper.call (.str s) = .ok (.str (s.map upperC)) ∧
    ProcK.upper.call (.bytes s) = .ok (.bytes (s.map upperC)) ∧
    ProcK.lower.call (.str s) = .ok (.str (s.map lowerC)) ∧
    ProcK.lower.call (.bytes s) = .ok (.bytes (s.map lowerC)) :=
  ⟨rfl, rfl, rfl, rfl, rfl, rfl⟩

/-! ### uniqueness: the two-store algorithm equals "no two equal items of the same exact type" -/

/-- items that are equal *and of the same exact type* agree on hashability (so the split of
    `UniqueItems` into a hashed store and a list cannot separate two equal items) -/
def HashCompat (xs : List PyVal) : Prop :=
  ∀ a ∈ xs, ∀ b ∈ xs, typedEq a b = true → hashable a = hashable b

/-- specification: no item equals an earlier item of the same exact type -/
def UniqueSpec (xs : List PyVal) : Prop := xs.Pairwise (fun a b => typedEq b a = false)

theorem HashCompat.perm {l l' : List PyVal} (p : l.Perm l') (h : HashCompat l) : HashCompat l' :=
  fun a ha b hb => h a (p.mem_iff.2 ha) b (p.mem_iff.2 hb)

theorem other_store {x : PyVal} {b : Bool} {st : List PyVal} (hx : hashable x = b)
    (hst : ∀ a ∈ st, hashable a = !b) (hc : ∀ y ∈ st, typedEq x y = true → hashable x = hashable y) :
    ∀ y ∈ st, typedEq x y = false := by
  intro y hy
  cases he : typedEq x y with
  | false => rfl
  | true =>
    have := hc y hy he
    rw [hx, hst y hy] at this
    cases b <;> cases this

theorem fresh_cons {x : PyVal} {xs seen seen' : List PyVal} (hs : ∀ y, y ∈ seen' ↔ y = x ∨ y ∈ seen) :
    ((∀ z ∈ x :: xs, ∀ y ∈ seen, typedEq z y = false) ∧ UniqueSpec (x :: xs)) ↔
      (∀ y ∈ seen, typedEq x y = false) ∧
        ((∀ z ∈ xs, ∀ y ∈ seen', typedEq z y = false) ∧ UniqueSpec xs) := by
  simp only [List.forall_mem_cons, UniqueSpec, List.pairwise_cons, hs, forall_eq_or_imp]
  constructor
  · rintro ⟨⟨h1, h2⟩, h3, h4⟩; exact ⟨h1, fun z hz => ⟨h3 z hz, h2 z hz⟩, h4⟩
  · rintro ⟨h1, h2, h4⟩; exact ⟨⟨h1, fun z hz => (h2 z hz).2⟩, fun z hz => (h2 z hz).1, h4⟩

theorem if_any_iff {l : List PyVal} {p : PyVal → Bool} {u : Bool} :
    (if l.any p = true then false else u) = true ↔ (∀ y ∈ l, p y = false) ∧ u = true := by
  have : (∀ y ∈ l, p y = false) ↔ l.any p = false := by simp
  rw [this]
  cases l.any p <;> simp

theorem uniqueLoop_spec : ∀ (xs hs us : List PyVal),
    (∀ a ∈ hs, hashable a = true) → (∀ a ∈ us, hashable a = false) →
    HashCompat (xs ++ hs ++ us) →
    (uniqueLoop xs hs us = true ↔
      (∀ x ∈ xs, ∀ y ∈ hs ++ us, typedEq x y = false) ∧ UniqueSpec xs) := by
  intro xs
  induction xs with
  | nil => intro hs us _ _ _; simp [uniqueLoop, UniqueSpec]
  | cons x xs ih =>
    intro hs us hh hu hc
    have hcx : ∀ y ∈ hs ++ us, typedEq x y = true → hashable x = hashable y := fun y hy =>
      hc x (List.mem_append_left _ (List.mem_append_left _ List.mem_cons_self)) y
        (by rw [List.append_assoc]; exact List.mem_append_right _ hy)
    unfold uniqueLoop
    cases hx : hashable x with
    | true =>
      -- only `hs` can hold an item equal to `x`
      have hno := other_store hx hu (fun y hy => hcx y (List.mem_append_right _ hy))
      rw [if_pos rfl, fresh_cons (seen' := (x :: hs) ++ us) (by simp),
        ← ih (x :: hs) us (List.forall_mem_cons.2 ⟨hx, hh⟩) hu
          (hc.perm (List.perm_middle.symm.append_right us)),
        List.forall_mem_append, and_iff_left hno]
      exact if_any_iff
    | false =>
      have hno := other_store hx hh (fun y hy => hcx y (List.mem_append_left _ hy))
      rw [if_neg Bool.false_ne_true, fresh_cons (seen' := hs ++ x :: us) (by simp [or_left_comm]),
        ← ih hs (x :: us) hh (List.forall_mem_cons.2 ⟨hx, hu⟩) (hc.perm List.perm_middle.symm),
        List.forall_mem_append, and_iff_right hno]
      exact if_any_iff

/-- **UniqueItems**: true exactly when no item equals an earlier item *of the same exact type*
    (so `1`, `True`, `1.0` are three distinct items), for hashable and unhashable items alike -/
theorem C15_uniqueItems (oid : Nat) (xs : List PyVal) (hc : HashCompat xs) (hs : snanInsideL xs = false) :
    ∃ b, PredK.uniqueItems.call (.list oid xs) = .ok b ∧ (b = true ↔ UniqueSpec xs) := by
  refine ⟨uniqueLoop xs [] [], by simp [PredK.call, pyIter, hs], ?_⟩
  rw [uniqueLoop_spec xs [] [] (by simp) (by simp) (by simpa using hc)]
  simp

/-- the excluded case is finding D30: with a signalling Decimal NaN among (or inside) the items a comparison may raise -
    `[[sNaN], [1]]` does, `[[sNaN], [1, 2]]` does not (lists of different lengths are unequal before any element is
    looked at) -/
example : PredK.uniqueItems.call (.list 0 [.list 0 [.decimal .snan], .list 0 [.int 1]]) = .error .invalidOperation ∧
          PredK.uniqueItems.call (.list 0 [.list 0 [.decimal .snan], .list 0 [.int 1, .int 2]]) = .ok true := by
  constructor <;> rfl

/-- `1`, `True` and `1.0` are pairwise distinct for `UniqueItems`; two `1`s are not -/
example : PredK.uniqueItems.call (.list 0 [.int 1, .bool true, .float (.fin false 1 0)]) = .ok true ∧
          PredK.uniqueItems.call (.list 0 [.int 1, .list 0 [.int 2], .list 0 [.int 2]]) = .ok false := by
  constructor <;> rfl

end Koda
