/-
  C15 — the built-in predicates and processors *as written in /repo's current source*.

  `Generated/PredSrc.lean` is rewritten on every run by `harness/pysrc.py` from the AST of every
  `Predicate` / `Processor` subclass in koda_validate.  The theorems below say, class by class, that
  evaluating the translated `__call__` body (with `self`'s attributes bound) is exactly the model's
  `PredK.call` / `ProcK.call` — for every parameter value and every argument, exceptions included.
  A source change to a predicate changes the generated term, and its theorem no longer checks.

  `UniqueItems` (a loop with `try / except`) is outside the translated subset: its whole body is pinned
  as an AST dump (`src_UniqueItems_pinned`); the model's `uniqueLoop` stays tied to it by the
  correspondence stream alone.
-/
import KodaModel.Generated.PredSrc
import KodaModel.Properties.C15

namespace Koda

-- derives the interpreter's equations once for the file instead of once in every proof that unfolds it
attribute [local simp] PExp.eval PStmt.eval

def envOf (l : List (String × PyVal)) (pat : Option Pat := none) : SelfEnv :=
  { attr := fun a => (l.lookup a).getD .none, pat := pat }

def evalSrc (cls : String) (env : SelfEnv) (x : PyVal) : Except Exn PyVal :=
  (lookupSrc Src.calls cls).eval env x

/-- looks `cls` up in `Src.calls`; `String.reduceEq` compares the names (`rfl` would do it by `whnf`, slow on string literals) -/
local macro "src_body" : tactic => `(tactic| simp only [evalSrc, Src.calls, lookupSrc, String.reduceEq, ↓reduceIte])

theorem src_Min (m : PyVal) (excl : Bool) (x : PyVal) :
    evalSrc "Min" (envOf [("minimum", m), ("exclusive_minimum", .bool excl)]) x = boolV ((PredK.min m excl).call x) := by
  src_body
  cases excl <;> rfl

theorem src_Max (m : PyVal) (excl : Bool) (x : PyVal) :
    evalSrc "Max" (envOf [("maximum", m), ("exclusive_maximum", .bool excl)]) x = boolV ((PredK.max m excl).call x) := by
  src_body
  cases excl <;> rfl

theorem src_MultipleOf (f x : PyVal) :
    evalSrc "MultipleOf" (envOf [("factor", f)]) x = boolV ((PredK.multipleOf f).call x) := by
  src_body
  rfl

theorem src_EqualTo (m x : PyVal) :
    evalSrc "EqualTo" (envOf [("match", m)]) x = boolV ((PredK.equalTo m).call x) := by
  src_body
  rfl

theorem src_Choices (vs : List PyVal) (oid : Nat) (x : PyVal) :
    evalSrc "Choices" (envOf [("choices", .set oid vs)]) x = boolV ((PredK.choices vs).call x) := by
  src_body
  show (if !hashable x then .error .typeError else .ok (.bool (memL x vs))) = boolV (PredK.call _ x)
  simp only [PredK.call, boolV]
  cases hashable x <;> rfl

/-! lengths and counts: `len(val) <op> self.<n>` -/

theorem pyEqX_int (a b : Int) : pyEqX (.int a) (.int b) = .ok (decide (a = b)) := by
  simp only [pyEqX, PyVal.unsub, isSNaN, Bool.or_self, Bool.false_eq_true, if_false, pyEq, numEq, xnum, XNum.eq, Frac.eq,
    Frac.ofInt]
  by_cases h : a = b
  · subst h; simp
  · simp [h]

theorem eval_len_cmp (op : CmpOp) (hop : op = .ge ∨ op = .le ∨ op = .eq) (attr : String) (n : Int) (x : PyVal) :
    (PStmt.ret (.cmp op (.len .val) (.self attr))).eval (envOf [(attr, .int n)]) x =
      boolV (lenCmp x (fun l => match op with | .ge => decide (l ≥ n) | .le => decide (l ≤ n) | _ => decide (l = n))) := by
  rcases hop with rfl | rfl | rfl
  all_goals
    simp only [PStmt.eval, PExp.eval, envOf, lenCmp, List.lookup, beq_self_eq_true, Option.getD_some]
    cases pyLen x with
    | none => rfl
    | some l => simp [swapLe, pyLe_int, pyEqX_int, boolV, Except.map]

theorem src_MinLength (n : Int) (x : PyVal) :
    evalSrc "MinLength" (envOf [("length", .int n)]) x = boolV ((PredK.minLength n).call x) := by
  src_body
  exact eval_len_cmp .ge (.inl rfl) _ n x

theorem src_MaxLength (n : Int) (x : PyVal) :
    evalSrc "MaxLength" (envOf [("length", .int n)]) x = boolV ((PredK.maxLength n).call x) := by
  src_body
  exact eval_len_cmp .le (.inr (.inl rfl)) _ n x

theorem src_ExactLength (n : Int) (x : PyVal) :
    evalSrc "ExactLength" (envOf [("length", .int n)]) x = boolV ((PredK.exactLength n).call x) := by
  src_body
  exact eval_len_cmp .eq (.inr (.inr rfl)) _ n x

theorem src_MinItems (n : Int) (x : PyVal) :
    evalSrc "MinItems" (envOf [("item_count", .int n)]) x = boolV ((PredK.minItems n).call x) := by
  src_body
  exact eval_len_cmp .ge (.inl rfl) _ n x

theorem src_MaxItems (n : Int) (x : PyVal) :
    evalSrc "MaxItems" (envOf [("item_count", .int n)]) x = boolV ((PredK.maxItems n).call x) := by
  src_body
  exact eval_len_cmp .le (.inr (.inl rfl)) _ n x

theorem src_ExactItemCount (n : Int) (x : PyVal) :
    evalSrc "ExactItemCount" (envOf [("item_count", .int n)]) x = boolV ((PredK.exactItemCount n).call x) := by
  src_body
  exact eval_len_cmp .eq (.inr (.inr rfl)) _ n x

theorem src_MinKeys (n : Int) (x : PyVal) :
    evalSrc "MinKeys" (envOf [("size", .int n)]) x = boolV ((PredK.minKeys n).call x) := by
  src_body
  exact eval_len_cmp .ge (.inl rfl) _ n x

theorem src_MaxKeys (n : Int) (x : PyVal) :
    evalSrc "MaxKeys" (envOf [("size", .int n)]) x = boolV ((PredK.maxKeys n).call x) := by
  src_body
  exact eval_len_cmp .le (.inr (.inl rfl)) _ n x

theorem src_StartsWith (p x : PyVal) :
    evalSrc "StartsWith" (envOf [("prefix", p)]) x = boolV ((PredK.startsWith p).call x) := by
  src_body
  rfl

theorem src_EndsWith (p x : PyVal) :
    evalSrc "EndsWith" (envOf [("suffix", p)]) x = boolV ((PredK.endsWith p).call x) := by
  src_body
  rfl

theorem src_RegexPredicate (p : Pat) (x : PyVal) :
    evalSrc "RegexPredicate" (envOf [] (some p)) x = boolV ((PredK.regex p).call x) := by
  src_body
  rfl

/-- EmailPredicate's body is RegexPredicate's, on its default pattern … -/
theorem src_EmailPredicate (p : Pat) (x : PyVal) :
    evalSrc "EmailPredicate" (envOf [] (some p)) x = boolV ((PredK.regex p).call x) := by
  src_body
  rfl

/-- … which is the pattern the model's `emailMatch` was written for -/
theorem src_email_pattern : Src.emailPattern = "[a-zA-Z0-9_.+-]+@[a-zA-Z0-9-]+\\.[a-zA-Z0-9-.]+" := rfl

theorem src_NotBlank (x : PyVal) : evalSrc "NotBlank" (envOf []) x = boolV (PredK.notBlank.call x) := by
  src_body
  -- `len(s) != 0` is `not s.isEmpty`
  have key : ∀ l : List Nat, boolV ((pyEqX (.int l.length) (.int 0)).map not) = .ok (.bool (!l.isEmpty)) := by
    intro l; rw [pyEqX_int]; cases l <;> rfl
  simp only [PStmt.eval, PExp.eval, callMeth0, if_true, ProcK.call, PredK.call]
  cases x.unsub with
  | str s => exact key _
  | bytes s => exact key _
  | _ => rfl

theorem src_Strip (x : PyVal) : evalSrc "Strip" (envOf []) x = ProcK.call .strip x := by src_body; rfl
theorem src_UpperCase (x : PyVal) : evalSrc "UpperCase" (envOf []) x = ProcK.call .upper x := by src_body; rfl
theorem src_LowerCase (x : PyVal) : evalSrc "LowerCase" (envOf []) x = ProcK.call .lower x := by src_body; rfl

/-- `UniqueItems.__call__` is outside the translated subset; its body is pinned as it was when
    `uniqueLoop` was written from it -/
theorem src_UniqueItems_pinned : lookupSrc Src.calls "UniqueItems" =
    (.unsupported "AnnAssign(target=Name(id='hashable_items', ctx=Store()), annotation=Subscript(value=Name(id='Set', ctx=Load()), slice=Subscript(value=Name(id='Tuple', ctx=Load()), slice=Tuple(elts=[Subscript(value=Name(id='Type', ctx=Load()), slice=Name(id='Any', ctx=Load()), ctx=Load()), Name(id='Any', ctx=Load())], ctx=Load()), ctx=Load()), ctx=Load()), value=Call(func=Name(id='set', ctx=Load()), args=[], keywords=[]), simple=1) ; AnnAssign(target=Name(id='unhashable_items', ctx=Store()), annotation=Subscript(value=Name(id='List', ctx=Load()), slice=Subscript(value=Name(id='Tuple', ctx=Load()), slice=Tuple(elts=[Subscript(value=Name(id='Type', ctx=Load()), slice=Name(id='Any', ctx=Load()), ctx=Load()), Name(id='Any', ctx=Load())], ctx=Load()), ctx=Load()), ctx=Load()), value=List(elts=[], ctx=Load()), simple=1) ; For(target=Name(id='item', ctx=Store()), iter=Name(id='val', ctx=Load()), body=[Assign(targets=[Name(id='typed_lookup', ctx=Store())], value=Tuple(elts=[Call(func=Name(id='type', ctx=Load()), args=[Name(id='item', ctx=Load())], keywords=[]), Name(id='item', ctx=Load())], ctx=Load())), Try(body=[If(test=Compare(left=Name(id='typed_lookup', ctx=Load()), ops=[In()], comparators=[Name(id='hashable_items', ctx=Load())]), body=[Return(value=Constant(value=False))], orelse=[Expr(value=Call(func=Attribute(value=Name(id='hashable_items', ctx=Load()), attr='add', ctx=Load()), args=[Name(id='typed_lookup', ctx=Load())], keywords=[]))])], handlers=[ExceptHandler(type=Name(id='TypeError', ctx=Load()), body=[If(test=Compare(left=Name(id='typed_lookup', ctx=Load()), ops=[In()], comparators=[Name(id='unhashable_items', ctx=Load())]), body=[Return(value=Constant(value=False))], orelse=[Expr(value=Call(func=Attribute(value=Name(id='unhashable_items', ctx=Load()), attr='append', ctx=Load()), args=[Name(id='typed_lookup', ctx=Load())], keywords=[]))])])], orelse=[], finalbody=[])], orelse=[Return(value=Constant(value=True))])") := by
  simp only [Src.calls, lookupSrc, String.reduceEq, ↓reduceIte]

/-! the inventory: exactly these classes exist, with these fields -/

theorem src_classes : Src.classes = [
    ("Choices", "Predicate", ["choices"]), ("EmailPredicate", "Predicate", ["pattern"]),
    ("EndsWith", "Predicate", ["suffix"]), ("EqualTo", "Predicate", ["match"]),
    ("ExactItemCount", "Predicate", ["item_count"]), ("ExactLength", "Predicate", ["length"]),
    ("LowerCase", "Processor", []), ("Max", "Predicate", ["maximum", "exclusive_maximum"]),
    ("MaxItems", "Predicate", ["item_count"]), ("MaxKeys", "Predicate", ["size"]),
    ("MaxLength", "Predicate", ["length"]), ("Min", "Predicate", ["minimum", "exclusive_minimum"]),
    ("MinItems", "Predicate", ["item_count"]), ("MinKeys", "Predicate", ["size"]),
    ("MinLength", "Predicate", ["length"]), ("MultipleOf", "Predicate", ["factor"]),
    ("NotBlank", "Predicate", []), ("RegexPredicate", "Predicate", ["pattern"]),
    ("StartsWith", "Predicate", ["prefix"]), ("Strip", "Processor", []), ("UniqueItems", "Predicate", []),
    ("UpperCase", "Processor", [])] := rfl

end Koda
