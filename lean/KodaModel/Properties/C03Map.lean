/-
  C03 — the map validator *as written in /repo's current source*.

  `Generated/MapSrc.lean` is rewritten on every run from the AST of `MapValidator.__call__` and `validate_async`
  (koda_validate/dictionary.py).  Interpreting the translated methods (`KodaModel/PyMap.lean`) is the model's `mapStep`:
  for every configuration, every key / value validator and every input — container-level failures before any pair, every
  key and every value validated, failing pairs under their original key with separate key / value parts, the payload
  built by item assignment, trace and exceptions.
-/
import KodaModel.Generated.MapSrc
import KodaModel.Lemmas.SrcLoops

namespace Koda

-- realises the equations of the interpreter once for this file; otherwise every proof that unfolds it derives them again
attribute [local simp] MExp.eval MStmt.exec MStmt.execL mtruthy mselfAttr MEnv.get MEnv.set

def mGuard : MStmt := .ite (.selfAttr .predicatesAsync) [.expr (.warn (.selfAttr .cls))] []

def mGate : MStmt :=
  .ite (.selfAttr .coerce)
    [.ite (.not (.attr (.walrus .coerced (.call1 (.selfAttr .coerce) .val)) .isJust))
       [.ret (.mkInvalid (.mkCoercionErr (.attr (.selfAttr .coerce) .compatibleTypes) .dictTy) .val .self)]
       [.assign .coercedVal (.attr (.var .coerced) .valA)]]
    [.ite (.typeIs .val .dictTy) [.assign .coercedVal .val]
       [.ret (.mkInvalid (.mkTypeErr .dictTy) .val .self)]]

def mSyncBody : List MStmt :=
  [.ite (.not (.call1 (.var .predicate) (.var .coercedVal))) [.append .predicateErrors (.var .predicate)] []]

def mAsyncBody : List MStmt :=
  [.ite (.not (.await (.validateAsync (.var .predAsync) (.var .coercedVal)))) [.append .predicateErrors (.var .predAsync)] []]

def mPreds : MStmt := .ite (.isNotNone (.selfAttr .predicates)) [.forIn .predicate (.selfAttr .predicates) mSyncBody] []
def mAPreds : MStmt := .ite (.isNotNone (.selfAttr .predicatesAsync)) [.forIn .predAsync (.selfAttr .predicatesAsync) mAsyncBody] []
def mCheck : MStmt :=
  .ite (.var .predicateErrors) [.ret (.mkInvalid (.mkPredErrs (.var .predicateErrors)) (.var .coercedVal) .self)] []

def mChild (aw : Bool) (which : MSelf) (arg : MVar) : MExp :=
  if aw then .await (.validateAsync (.selfAttr which) (.var arg)) else .call1 (.selfAttr which) (.var arg)

def mLoopBody (aw : Bool) : List MStmt :=
  [.assign .keyResult (mChild aw .keyValidator .key),
   .assign .valResult (mChild aw .valueValidator .valU),
   .ite (.and (.attr (.var .keyResult) .isValid) (.attr (.var .valResult) .isValid))
     [.setItem .returnDict (.attr (.var .keyResult) .valA) (.attr (.var .valResult) .valA)]
     [.setItem .errors (.var .key)
        (.mkKeyValErrs (.ifExp (.attr (.var .keyResult) .isValid) .noneLit (.var .keyResult))
                       (.ifExp (.attr (.var .valResult) .isValid) .noneLit (.var .valResult)))]]

def mLoop (aw : Bool) : MStmt := .forIn2 .key .valU (.items (.var .coercedVal)) (mLoopBody aw)

def mFinal : MStmt :=
  .ite (.var .errors) [.ret (.mkInvalid (.mkMapErr (.var .errors)) (.var .coercedVal) .self)]
    [.ret (.mkValid (.var .returnDict))]

def mTail (aw : Bool) : List MStmt := [.assign .returnDict .emptyDict, .assign .errors .emptyDict, mLoop aw, mFinal]

/-- `predicate_errors = []`, the predicate loops, `if predicate_errors: return …` -/
def mStage (aw : Bool) : List MStmt :=
  .assign .predicateErrors .emptyList :: mPreds :: (if aw then [mAPreds, mCheck] else [mCheck])

theorem mapSync_eq : Src.mapSync = mGuard :: mGate :: (mStage false ++ mTail false) := rfl
theorem mapAsync_eq : Src.mapAsync = mGate :: (mStage true ++ mTail true) := rfl

def outM : Except (MErr × List Ev) MFlow → Option (Out × List Ev)
  | .error (.exn e, t) => some (.raised e, t)
  | .error (_, _) => none
  | .ok (.returned (.resObj (.valid w)) st) => some (.valid w, st.tr)
  | .ok (.returned (.resObj (.invalid e)) st) => some (.invalid e, st.tr)
  | .ok _ => none

theorem runMapMethod_eq (o : Oracle) (cfg : MapCfg) (body : List MStmt) (x : PyVal) :
    runMapMethod o cfg body x = outM (MStmt.execL o cfg x { env := {}, tr := [] } body) := by
  simp only [runMapMethod, outM]
  rfl

theorem mexecL_nil (o : Oracle) (cfg : MapCfg) (x : PyVal) (st : MSt) : MStmt.execL o cfg x st [] = .ok (.next st) := by
  simp only [MStmt.execL]

theorem mexecL_cons (o : Oracle) (cfg : MapCfg) (x : PyVal) (st : MSt) (s : MStmt) (rest : List MStmt) :
    MStmt.execL o cfg x st (s :: rest) =
      (match s.exec o cfg x st with
       | .error err => .error err
       | .ok (.next st) => MStmt.execL o cfg x st rest
       | .ok (.returned d st) => .ok (.returned d st)) := by
  simp only [MStmt.execL]
  rfl

theorem mexecL_single (o : Oracle) (cfg : MapCfg) (x : PyVal) (st : MSt) (s : MStmt) :
    MStmt.execL o cfg x st [s] = MStmt.exec o cfg x st s := by
  rw [mexecL_cons]
  simp only [mexecL_nil]
  rcases MStmt.exec o cfg x st s with _ | (_ | _) <;> rfl

theorem mexec_ite (o : Oracle) (cfg : MapCfg) (x : PyVal) (st : MSt) (c : MExp) (t e : List MStmt) :
    MStmt.exec o cfg x st (.ite c t e) =
      (match c.eval o cfg x st with
       | .error err => .error err
       | .ok (d, st) =>
         match mtruthy d with
         | none => .error (.stuck "truth value", st.tr)
         | some true => MStmt.execL o cfg x st t
         | some false => MStmt.execL o cfg x st e) := by
  simp only [MStmt.exec]
  rfl

theorem mexec_assign (o : Oracle) (cfg : MapCfg) (x : PyVal) (st : MSt) (v : MVar) (e : MExp) :
    MStmt.exec o cfg x st (.assign v e) =
      (match e.eval o cfg x st with
       | .error err => .error err
       | .ok (d, st) => .ok (.next { st with env := st.env.set v d })) := by
  simp only [MStmt.exec]
  rfl

theorem mexec_ite_pure (o : Oracle) (cfg : MapCfg) (x : PyVal) (st : MSt) (c : MExp) (t e : List MStmt) (d : MV) (b : Bool)
    (hc : c.eval o cfg x st = .ok (d, st)) (hb : mtruthy d = some b) :
    MStmt.exec o cfg x st (.ite c t e) = MStmt.execL o cfg x st (if b then t else e) := by
  rw [mexec_ite, hc]
  simp only [hb]
  cases b <;> rfl

theorem meval_selfAttr (o : Oracle) (cfg : MapCfg) (x : PyVal) (st : MSt) (a : MSelf) (r : MV) (h : mselfAttr cfg a = some r) :
    (MExp.selfAttr a).eval o cfg x st = .ok (r, st) := by
  simp only [MExp.eval, h]

theorem mGuard_exec (o : Oracle) (cfg : MapCfg) (x : PyVal) (st : MSt) (rest : List MStmt) :
    MStmt.execL o cfg x st (mGuard :: rest) =
      (if (cfg.apreds.getD []) ≠ [] then .error (.exn .assertion, st.tr) else MStmt.execL o cfg x st rest) := by
  rw [mexecL_cons, mGuard, mexec_ite_pure o cfg x st (.selfAttr .predicatesAsync) _ [] (moptList .apreds cfg.apreds)
    (!(cfg.apreds.getD []).isEmpty) (meval_selfAttr o cfg x st .predicatesAsync _ rfl) (by cases cfg.apreds <;> rfl)]
  cases cfg.apreds.getD [] with
  | nil => rfl
  | cons a l =>
    simp only [List.isEmpty_cons, Bool.not_false, if_true, ne_eq, reduceCtorEq, not_false_eq_true, mexecL_single, MStmt.exec,
      MExp.eval, mselfAttr]

theorem mGate_exec (o : Oracle) (cfg : MapCfg) (x : PyVal) (st : MSt) (rest : List MStmt) :
    GateStage outM (fun st' => MStmt.execL o cfg x st' rest) (fun st' y t => st'.env.coercedVal = .py y ∧ st'.tr = st.tr ++ t)
      x cfg.vid st.tr (gate o Ty.dict Ty.dict cfg.coerce x) (MStmt.execL o cfg x st (mGate :: rest)) := by
  rw [mexecL_cons, mGate]
  cases hc : cfg.coerce with
  | none =>
    rw [mexec_ite_pure o cfg x st _ _ _ .none false (meval_selfAttr o cfg x st .coerce _ (by rw [mselfAttr, hc])) rfl]
    have hcond : (MExp.typeIs .val .dictTy).eval o cfg x st = .ok (.bool (x.ty == .dict), st) := by
      simp only [MExp.eval]
    simp only [Bool.false_eq_true, if_false, mexecL_single, gate]
    rw [mexec_ite_pure o cfg x st _ _ _ _ _ hcond rfl]
    by_cases hty : x.ty = .dict
    · rw [if_pos hty, beq_iff_eq.mpr hty]
      exact .of_acc ⟨{ st with env := st.env.set .coercedVal (.py x) }, rfl, rfl, (List.append_nil _).symm⟩
    · rw [if_neg hty, beq_eq_false_iff_ne.mpr hty]
      refine .of_rej ?_
      simp only [Bool.false_eq_true, if_false, mexecL_single, MStmt.exec, MExp.eval, List.append_nil]
      rfl
  | some c =>
    have hsa : mselfAttr cfg .coerce = some (.coercer c) := by rw [mselfAttr, hc]
    rw [mexec_ite_pure o cfg x st _ _ _ _ true (meval_selfAttr o cfg x st .coerce _ hsa) rfl]
    have hcond : (MExp.not (.attr (.walrus .coerced (.call1 (.selfAttr .coerce) .val)) .isJust)).eval o cfg x st =
        .ok (.bool (!(callMapCoercer o c x).1.isSome),
          { env := st.env.set .coerced (.maybe (callMapCoercer o c x).1), tr := st.tr ++ (callMapCoercer o c x).2 }) := by
      simp only [MExp.eval, hsa, mtruthy]
    simp only [if_true, mexecL_single, gate]
    rw [mexec_ite, hcond]
    rcases callCoercer_cases o .dict .dict c x (callMapCoercer o c x) (mapCompat c) rfl (by cases c <;> rfl) with ⟨y, t, hg, hcc⟩ | ⟨t, hg, hcc⟩ <;> rw [hg, hcc]
    · exact .of_acc ⟨{ env := (st.env.set .coerced (.maybe (some y))).set .coercedVal (.py y), tr := st.tr ++ t }, rfl, rfl, rfl⟩
    · refine .of_rej ?_
      simp only [Option.isSome_none, Bool.not_false, mtruthy, mexecL_single, MStmt.exec, MExp.eval, hsa]
      rfl

/-- `predicate_errors` holds the predicate objects `qs` (an empty Python list has no element type) -/
def MIsErrs (v : MV) (qs : List Pred) : Prop := v = .preds qs ∨ (qs = [] ∧ v = .emptyL)

theorem misErrs_truthy {v : MV} {qs : List Pred} (h : MIsErrs v qs) : mtruthy v = some (!qs.isEmpty) := by
  rcases h with rfl | ⟨rfl, rfl⟩ <;> rfl

theorem mSyncBody_exec (o : Oracle) (cfg : MapCfg) (x : PyVal) (st : MSt) (p : Pred) (z : PyVal) (qs : List Pred)
    (hp : st.env.predicate = .pred p) (hz : st.env.coercedVal = .py z) (hq : MIsErrs st.env.predicateErrors qs) :
    MStmt.execL o cfg x st mSyncBody =
      (match p.k.call z with
       | .error e => .error (.exn e, st.tr ++ p.ev)
       | .ok true => .ok (.next { st with tr := st.tr ++ p.ev })
       | .ok false => .ok (.next { env := st.env.set .predicateErrors (.preds (qs ++ [p])), tr := st.tr ++ p.ev })) := by
  rw [mSyncBody, mexecL_single, mexec_ite]
  simp only [MExp.eval, MEnv.get, hp, hz]
  cases p.k.call z with
  | error e => rfl
  | ok b =>
    cases b with
    | true => rfl
    | false =>
      simp only [mtruthy, Bool.not_false, mexecL_single, MStmt.exec, MExp.eval, MEnv.get, hp]
      rcases hq with hq | ⟨rfl, hq⟩ <;> rw [hq] <;> rfl

theorem mAsyncBody_exec (o : Oracle) (cfg : MapCfg) (x : PyVal) (st : MSt) (p : Pred) (z : PyVal) (qs : List Pred)
    (hp : st.env.predAsync = .apred p) (hz : st.env.coercedVal = .py z) (hq : MIsErrs st.env.predicateErrors qs) :
    MStmt.execL o cfg x st mAsyncBody =
      (match p.k.call z with
       | .error e => .error (.exn e, st.tr ++ [.apred p.pid])
       | .ok true => .ok (.next { st with tr := st.tr ++ [.apred p.pid] })
       | .ok false => .ok (.next { env := st.env.set .predicateErrors (.preds (qs ++ [p])), tr := st.tr ++ [.apred p.pid] })) := by
  rw [mAsyncBody, mexecL_single, mexec_ite]
  simp only [MExp.eval, MEnv.get, hp, hz]
  cases p.k.call z with
  | error e => rfl
  | ok b =>
    cases b with
    | true => rfl
    | false =>
      simp only [mtruthy, Bool.not_false, mexecL_single, MStmt.exec, MExp.eval, MEnv.get, hp]
      rcases hq with hq | ⟨rfl, hq⟩ <;> rw [hq] <;> rfl

def MCollects (run : List Nat × List Ev × Option Exn) (ps : List Pred) (z : PyVal) (st : MSt) (qs : List Pred)
    (res : Except (MErr × List Ev) MFlow) : Prop :=
  (∀ f t e, run = (f, t, some e) → res = .error (.exn e, st.tr ++ t)) ∧
  (∀ f t, run = (f, t, none) →
    f = (failingPreds ps z).map (·.pid) ∧
    ∃ st', res = .ok (.next st') ∧ st'.tr = st.tr ++ t ∧ st'.env.coercedVal = .py z ∧
      MIsErrs st'.env.predicateErrors (qs ++ failingPreds ps z))

theorem mforFold_preds (o : Oracle) (cfg : MapCfg) (x : PyVal) (ps : List Pred) (st : MSt) (z : PyVal) (qs : List Pred)
    (hz : st.env.coercedVal = .py z) (hq : MIsErrs st.env.predicateErrors qs) :
    MCollects (runPreds ps z) ps z st qs
      (mforFold (fun st => MStmt.execL o cfg x st mSyncBody) .predicate (ps.map MV.pred) st) := by
  exact predLoop_spec z Pred.ev (fun ps => runPreds ps z) rfl (fun _ _ => rfl)
    (fun ps st => mforFold (fun st => MStmt.execL o cfg x st mSyncBody) .predicate (ps.map MV.pred) st)
    (·.tr) (fun st qs => st.env.coercedVal = .py z ∧ MIsErrs st.env.predicateErrors qs)
    (fun st => .ok (.next st)) (fun e t => .error (.exn e, t)) (fun _ => rfl)
    (by
      rintro p ps st qs ⟨hz, hq⟩
      simp only [List.map_cons, mforFold]
      rw [mSyncBody_exec o cfg x { env := st.env.set .predicate (.pred p), tr := st.tr } p z qs rfl hz hq]
      refine ⟨fun e he => by rw [he], fun b hb => ?_⟩
      rw [hb]
      cases b
      · exact ⟨_, rfl, rfl, hz, .inl rfl⟩
      · exact ⟨_, rfl, rfl, hz, hq⟩)
    ps st qs ⟨hz, hq⟩

theorem mforFold_apreds (o : Oracle) (cfg : MapCfg) (x : PyVal) (ps : List Pred) (st : MSt) (z : PyVal) (qs : List Pred)
    (hz : st.env.coercedVal = .py z) (hq : MIsErrs st.env.predicateErrors qs) :
    MCollects (runAPreds ps z) ps z st qs
      (mforFold (fun st => MStmt.execL o cfg x st mAsyncBody) .predAsync (ps.map MV.apred) st) := by
  exact predLoop_spec z (fun p => [.apred p.pid]) (fun ps => runAPreds ps z) rfl (fun _ _ => rfl)
    (fun ps st => mforFold (fun st => MStmt.execL o cfg x st mAsyncBody) .predAsync (ps.map MV.apred) st)
    (·.tr) (fun st qs => st.env.coercedVal = .py z ∧ MIsErrs st.env.predicateErrors qs)
    (fun st => .ok (.next st)) (fun e t => .error (.exn e, t)) (fun _ => rfl)
    (by
      rintro p ps st qs ⟨hz, hq⟩
      simp only [List.map_cons, mforFold]
      rw [mAsyncBody_exec o cfg x { env := st.env.set .predAsync (.apred p), tr := st.tr } p z qs rfl hz hq]
      refine ⟨fun e he => by rw [he], fun b hb => ?_⟩
      rw [hb]
      cases b
      · exact ⟨_, rfl, rfl, hz, .inl rfl⟩
      · exact ⟨_, rfl, rfl, hz, hq⟩)
    ps st qs ⟨hz, hq⟩

theorem mPreds_exec (o : Oracle) (cfg : MapCfg) (x : PyVal) (st : MSt) (y : PyVal) (qs : List Pred)
    (hy : st.env.coercedVal = .py y) (hq : MIsErrs st.env.predicateErrors qs) :
    MCollects (runPreds (cfg.preds.getD []) y) (cfg.preds.getD []) y st qs (MStmt.exec o cfg x st mPreds) := by
  have h : MStmt.exec o cfg x st mPreds =
      mforFold (fun st => MStmt.execL o cfg x st mSyncBody) .predicate ((cfg.preds.getD []).map MV.pred) st := by
    rw [mPreds, mexec_ite]
    rcases h : cfg.preds with _ | l
    · simp only [MExp.eval, mselfAttr, h, moptList, mtruthy, mexecL_nil]; rfl
    · simp only [MExp.eval, mselfAttr, h, moptList, mtruthy, mexecL_single, MStmt.exec]; rfl
  rw [h]
  exact mforFold_preds o cfg x _ st y qs hy hq

theorem mAPreds_exec (o : Oracle) (cfg : MapCfg) (x : PyVal) (st : MSt) (y : PyVal) (qs : List Pred)
    (hy : st.env.coercedVal = .py y) (hq : MIsErrs st.env.predicateErrors qs) :
    MCollects (runAPreds (cfg.apreds.getD []) y) (cfg.apreds.getD []) y st qs (MStmt.exec o cfg x st mAPreds) := by
  have h : MStmt.exec o cfg x st mAPreds =
      mforFold (fun st => MStmt.execL o cfg x st mAsyncBody) .predAsync ((cfg.apreds.getD []).map MV.apred) st := by
    rw [mAPreds, mexec_ite]
    rcases h : cfg.apreds with _ | l
    · simp only [MExp.eval, mselfAttr, h, moptList, mtruthy, mexecL_nil]; rfl
    · simp only [MExp.eval, mselfAttr, h, moptList, mtruthy, mexecL_single, MStmt.exec]; rfl
  rw [h]
  exact mforFold_apreds o cfg x _ st y qs hy hq

theorem mCheck_exec (o : Oracle) (cfg : MapCfg) (x : PyVal) (st : MSt) (y : PyVal) (qs : List Pred)
    (hy : st.env.coercedVal = .py y) (hq : MIsErrs st.env.predicateErrors qs) :
    MStmt.exec o cfg x st mCheck =
      if qs = [] then .ok (.next st)
      else .ok (.returned (.resObj (.invalid (.mk (.preds (qs.map (·.pid))) y cfg.vid []))) st) := by
  rw [mCheck, mexec_ite_pure o cfg x st _ _ _ _ _ rfl (misErrs_truthy hq)]
  cases qs with
  | nil => rfl
  | cons q qs' =>
    have hcv : st.env.get .coercedVal = .py y := hy
    have hpe : st.env.get .predicateErrors = .preds (q :: qs') := hq.elim id (fun h => absurd h.1 (List.cons_ne_nil _ _))
    simp only [List.isEmpty_cons, Bool.not_false, if_true, reduceCtorEq, if_false, mexecL_single, MStmt.exec, MExp.eval, hpe, hcv]

def MPredsStage (o : Oracle) (cfg : MapCfg) (x : PyVal) (m : Mode) (stage : List MStmt) : Prop :=
  ∀ (st : MSt) (y : PyVal) (rest : List MStmt), st.env.coercedVal = .py y →
    PredsStage outM (fun st' => MStmt.execL o cfg x st' rest) (fun st' t => st'.env.coercedVal = .py y ∧ st'.tr = st.tr ++ t)
      y cfg.vid st.tr (contPreds m (cfg.preds.getD []) (cfg.apreds.getD []) y) (MStmt.execL o cfg x st (stage ++ rest))

theorem mCheck_then (o : Oracle) (cfg : MapCfg) (x : PyVal) (st0 st : MSt) (y : PyVal) (qs : List Pred) (fs : List Nat) (t0 : List Ev)
    (rest : List MStmt) (hy : st.env.coercedVal = .py y) (hq : MIsErrs st.env.predicateErrors qs)
    (hfs : fs = qs.map (·.pid)) (htr : st.tr = st0.tr ++ t0) :
    PredsStage outM (fun st' => MStmt.execL o cfg x st' rest) (fun st' t => st'.env.coercedVal = .py y ∧ st'.tr = st0.tr ++ t)
      y cfg.vid st0.tr (fs, t0, none) (MStmt.execL o cfg x st (mCheck :: rest)) := by
  rw [mexecL_cons, mCheck_exec o cfg x st y qs hy hq]
  exact .of_checked qs t0 st hfs (fun h => by rw [if_pos h]) (fun h => by rw [if_neg h, ← htr]; rfl) ⟨hy, htr⟩

theorem mStage_exec (o : Oracle) (cfg : MapCfg) (x : PyVal) (aw : Bool) :
    MPredsStage o cfg x (if aw then .async else .sync) (mStage aw) := by
  intro st y rest hy
  -- the run is computed once, in `hR`; what is said about it is split only at the end
  obtain ⟨R, hR⟩ : ∃ R, MStmt.execL o cfg x st (mStage aw ++ rest) = R := ⟨_, rfl⟩
  rw [hR]
  rw [mStage, List.cons_append, mexecL_cons, mexec_assign, List.cons_append] at hR
  simp only [MExp.eval, mexecL_cons] at hR
  obtain ⟨s1, s2⟩ := mPreds_exec o cfg x { st with env := st.env.set .predicateErrors .emptyL } y [] hy (.inr ⟨rfl, rfl⟩)
  rcases hr : runPreds (cfg.preds.getD []) y with ⟨f1, t1, _ | e1⟩
  · obtain ⟨hf1, st1, hs1, ht1, hy1, hq1⟩ := s2 f1 t1 hr
    rw [hs1] at hR
    cases aw
    · simp only [Bool.false_eq_true, if_false, contPreds_sync, hr]
      simp only [Bool.false_eq_true, if_false, List.singleton_append] at hR
      rw [← hR]
      exact mCheck_then o cfg x st st1 y _ f1 t1 rest hy1 hq1 hf1 ht1
    · simp only [if_true, contPreds_async, hr]
      simp only [if_true, List.cons_append, List.nil_append, mexecL_cons] at hR
      obtain ⟨a1, a2⟩ := mAPreds_exec o cfg x st1 y _ hy1 hq1
      rcases hra : runAPreds (cfg.apreds.getD []) y with ⟨f2, t2, _ | e2⟩
      · obtain ⟨hf2, st2, hs2, ht2, hy2, hq2⟩ := a2 f2 t2 hra
        rw [hs2] at hR
        rw [← hR]
        exact mCheck_then o cfg x st st2 y _ (f1 ++ f2) (t1 ++ t2) rest hy2 hq2 (by rw [hf1, hf2, List.map_append]; rfl)
          (by rw [ht2, ht1, List.append_assoc])
      · rw [a1 f2 t2 e2 hra, ht1, List.append_assoc] at hR
        exact .of_raised (by rw [← hR]; rfl)
  · have hc : contPreds (if aw then .async else .sync) (cfg.preds.getD []) (cfg.apreds.getD []) y = ([], t1, some e1) := by
      cases aw
      · simp only [Bool.false_eq_true, if_false, contPreds_sync, hr]
      · simp only [if_true, contPreds_async, hr]
    rw [s1 f1 t1 e1 hr] at hR
    rw [hc]
    exact .of_raised (by rw [← hR]; rfl)

def invOf : Out → Option Inv
  | .invalid e => some e
  | _ => none

structure MapInv (st : MSt) (acc : List (PyVal × PyVal)) (es : List (PyVal × KVE)) (cv : MV) : Prop where
  rd : st.env.returnDict = .dictPayload acc
  er : (es = [] ∧ st.env.errors = .dictPayload []) ∨ (es ≠ [] ∧ st.env.errors = .mapErrs es)
  cv : st.env.coercedVal = cv

def esKs (es : List (PyVal × KVE)) : List PyVal := es.map Prod.fst
def esShape (es : List (PyVal × KVE)) : List (Bool × Bool) := es.map (fun p => (p.2.1.isSome, p.2.2.isSome))
def esErrs (es : List (PyVal × KVE)) : List Inv := es.flatMap (fun p => p.2.1.toList ++ p.2.2.toList)

/-- the conclusion of the fold lemma, for one list of pairs -/
def PairsOK (o : Oracle) (cfg : MapCfg) (x : PyVal) (aw : Bool) (kvs : List (PyVal × PyVal)) (st : MSt)
    (acc : List (PyVal × PyVal)) (es : List (PyVal × KVE)) (cv : MV) : Prop :=
  (mapLoop cfg.key cfg.value kvs acc = none →
    ∃ t, mforFold2 (fun st => MStmt.execL o cfg x st (mLoopBody aw)) .key .valU kvs st = .error (.diverge, t)) ∧
  (∀ r e, mapLoop cfg.key cfg.value kvs acc = some r → r.r = some e →
    mforFold2 (fun st => MStmt.execL o cfg x st (mLoopBody aw)) .key .valU kvs st = .error (.exn e, st.tr ++ r.t)) ∧
  (∀ r, mapLoop cfg.key cfg.value kvs acc = some r → r.r = none →
    ∃ st1 es', mforFold2 (fun st => MStmt.execL o cfg x st (mLoopBody aw)) .key .valU kvs st = .ok (.next st1) ∧
      st1.tr = st.tr ++ r.t ∧ MapInv st1 r.out (es ++ es') cv ∧
      r.ks = esKs es' ∧ r.shape = esShape es' ∧ r.errs = esErrs es')

/-- `if key_result.is_valid and val_result.is_valid: return_dict[…] = … else: errors[key] = KeyValErrs(…)` -/
def mStore : MStmt :=
  .ite (.and (.attr (.var .keyResult) .isValid) (.attr (.var .valResult) .isValid))
    [.setItem .returnDict (.attr (.var .keyResult) .valA) (.attr (.var .valResult) .valA)]
    [.setItem .errors (.var .key)
       (.mkKeyValErrs (.ifExp (.attr (.var .keyResult) .isValid) .noneLit (.var .keyResult))
                      (.ifExp (.attr (.var .valResult) .isValid) .noneLit (.var .valResult)))]

theorem callMapChild_env (ev : Ev1) (y : PyVal) (st st1 : MSt) (d : MV) (h : callMapChild ev y st = .ok (d, st1)) :
    st1.env = st.env := by
  unfold callMapChild at h
  split at h <;> simp only [reduceCtorEq, Except.ok.injEq, Prod.mk.injEq] at h
  rw [← h.2]

/-- States are written as record updates of `st.env`: their fields reduce at once, whereas through a chain of `MEnv.set` a
    fact about `st.env` is compared field by field at every level, which is slow to check. -/
theorem mLoopBody_exec (o : Oracle) (cfg : MapCfg) (x : PyVal) (aw : Bool) (st : MSt) (k v : PyVal)
    (hk : st.env.key = .py k) (hv : st.env.valU = .py v) :
    MStmt.execL o cfg x st (mLoopBody aw) =
      (match callMapChild cfg.key k st with
       | .error err => .error err
       | .ok (kd, st1) =>
         match callMapChild cfg.value v { st1 with env := { st1.env with keyResult := kd } } with
         | .error err => .error err
         | .ok (vd, st2) => MStmt.exec o cfg x { st2 with env := { st2.env with valResult := vd } } mStore) := by
  have hk' : st.env.get .key = .py k := hk
  have hke : (mChild aw .keyValidator .key).eval o cfg x st = callMapChild cfg.key k st := by
    cases aw <;> simp only [mChild, MExp.eval, mselfAttr, hk', if_true, Bool.false_eq_true, if_false]
  have hve : ∀ st1 : MSt, st1.env.valU = .py v →
      (mChild aw .valueValidator .valU).eval o cfg x st1 = callMapChild cfg.value v st1 := by
    intro st1 h1
    have h1' : st1.env.get .valU = .py v := h1
    cases aw <;> simp only [mChild, MExp.eval, mselfAttr, h1', if_true, Bool.false_eq_true, if_false]
  rw [mLoopBody, mexecL_cons, mexec_assign, hke]
  rcases hck : callMapChild cfg.key k st with err | ⟨kd, st1⟩
  · rfl
  · have hv1 : ({ st1 with env := { st1.env with keyResult := kd } } : MSt).env.valU = .py v := by
      rw [← hv, ← callMapChild_env _ _ _ _ _ hck]
    simp only
    rw [mexecL_cons, mexec_assign]
    rw [show st1.env.set .keyResult kd = { st1.env with keyResult := kd } from rfl, hve _ hv1]
    rcases callMapChild cfg.value v { st1 with env := { st1.env with keyResult := kd } } with err | ⟨vd, st2⟩
    · rfl
    · exact mexecL_single o cfg x _ mStore

theorem callMapChild_ok (ev : Ev1) (y : PyVal) (st : MSt) (out : Out) (t : List Ev) (h : ev y = some (out, t))
    (hout : ∀ e, out ≠ .raised e) : callMapChild ev y st = .ok (.resObj out, { st with tr := st.tr ++ t }) := by
  cases out with
  | raised e => exact absurd rfl (hout e)
  | valid w => simp only [callMapChild, h]
  | invalid e => simp only [callMapChild, h]

theorem mStore_valid (o : Oracle) (cfg : MapCfg) (x : PyVal) (st : MSt) (kw vw : PyVal) (acc : List (PyVal × PyVal))
    (hk : st.env.keyResult = .resObj (.valid kw)) (hv : st.env.valResult = .resObj (.valid vw))
    (hrd : st.env.returnDict = .dictPayload acc) :
    MStmt.exec o cfg x st mStore =
      if hashable kw then .ok (.next { st with env := { st.env with returnDict := .dictPayload (dictSet acc kw vw) } })
      else .error (.exn .typeError, st.tr) := by
  have hk' : st.env.get .keyResult = .resObj (.valid kw) := hk
  have hv' : st.env.get .valResult = .resObj (.valid vw) := hv
  have hrd' : st.env.get .returnDict = .dictPayload acc := hrd
  simp only [mStore, mexec_ite, MExp.eval, hk', hv', mtruthy, mexecL_single, MStmt.exec, hrd']
  cases hashable kw <;> rfl

theorem mStore_invalid (o : Oracle) (cfg : MapCfg) (x : PyVal) (st : MSt) (k : PyVal) (ko vo : Out) (es : List (PyVal × KVE))
    (hkr : st.env.keyResult = .resObj ko) (hvr : st.env.valResult = .resObj vo) (hkey : st.env.key = .py k)
    (her : (es = [] ∧ st.env.errors = .dictPayload []) ∨ (es ≠ [] ∧ st.env.errors = .mapErrs es))
    (hko : ∀ e, ko ≠ .raised e) (hvo : ∀ e, vo ≠ .raised e) (hbad : ∀ a b, ¬ (ko = .valid a ∧ vo = .valid b)) :
    MStmt.exec o cfg x st mStore =
      .ok (.next { st with env := { st.env with errors := .mapErrs (es ++ [(k, (invOf ko, invOf vo))]) } }) := by
  have hkr' : st.env.get .keyResult = .resObj ko := hkr
  have hvr' : st.env.get .valResult = .resObj vo := hvr
  have hkey' : st.env.get .key = .py k := hkey
  have her' : ∃ d, st.env.get .errors = d ∧ (d = .dictPayload [] ∧ es = [] ∨ d = .mapErrs es) := by
    rcases her with ⟨h1, h2⟩ | ⟨_, h2⟩
    · exact ⟨_, h2, .inl ⟨rfl, h1⟩⟩
    · exact ⟨_, h2, .inr rfl⟩
  obtain ⟨d, hd, hd'⟩ := her'
  cases ko with
  | raised e => exact absurd rfl (hko e)
  | _ =>
    cases vo with
    | raised e => exact absurd rfl (hvo e)
    | _ =>
      first
      | exact absurd ⟨rfl, rfl⟩ (hbad _ _)
      | (simp only [mStore, mexec_ite, MExp.eval, hkr', hvr', hkey', mtruthy, mexecL_single, MStmt.exec, hd, invOf]
         rcases hd' with ⟨rfl, rfl⟩ | rfl <;> rfl)

theorem mforFold2_unfold (body : MSt → Except (MErr × List Ev) MFlow) (k v : PyVal) (rest : List (PyVal × PyVal)) (st : MSt) :
    mforFold2 body .key .valU ((k, v) :: rest) st =
      (match body { st with env := { st.env with key := .py k, valU := .py v } } with
       | .ok (.next st') => mforFold2 body .key .valU rest st'
       | other => other) := by
  rfl

theorem pairsOK_diverge {o : Oracle} {cfg : MapCfg} {x : PyVal} {aw : Bool} {kvs : List (PyVal × PyVal)} {st : MSt}
    {acc : List (PyVal × PyVal)} {es : List (PyVal × KVE)} {cv : MV} (t : List Ev)
    (hm : mapLoop cfg.key cfg.value kvs acc = none)
    (hf : mforFold2 (fun st => MStmt.execL o cfg x st (mLoopBody aw)) .key .valU kvs st = .error (.diverge, t)) :
    PairsOK o cfg x aw kvs st acc es cv := by
  unfold PairsOK
  rw [hm, hf]
  exact ⟨fun _ => ⟨t, rfl⟩, fun r e h => by simp at h, fun r h => by simp at h⟩

theorem pairsOK_raised {o : Oracle} {cfg : MapCfg} {x : PyVal} {aw : Bool} {kvs : List (PyVal × PyVal)} {st : MSt}
    {acc : List (PyVal × PyVal)} {es : List (PyVal × KVE)} {cv : MV} (e : Exn) (t : List Ev)
    (hm : mapLoop cfg.key cfg.value kvs acc = some ⟨acc, [], [], [], t, some e⟩)
    (hf : mforFold2 (fun st => MStmt.execL o cfg x st (mLoopBody aw)) .key .valU kvs st = .error (.exn e, st.tr ++ t)) :
    PairsOK o cfg x aw kvs st acc es cv := by
  unfold PairsOK
  rw [hm, hf]
  refine ⟨fun h => by simp at h, fun r e' h hr => ?_, fun r h hr => ?_⟩ <;>
    simp only [Option.some.injEq] at h <;> subst h
  · simp only [Option.some.injEq] at hr; rw [hr]
  · simp at hr

theorem pairsOK_step {o : Oracle} {cfg : MapCfg} {x : PyVal} {aw : Bool} {kv : PyVal × PyVal} {rest : List (PyVal × PyVal)}
    {st st2 : MSt} {acc acc' : List (PyVal × PyVal)} {es es0 : List (PyVal × KVE)} {cv : MV} {t0 : List Ev}
    (hf : mforFold2 (fun st => MStmt.execL o cfg x st (mLoopBody aw)) .key .valU (kv :: rest) st =
      mforFold2 (fun st => MStmt.execL o cfg x st (mLoopBody aw)) .key .valU rest st2)
    (ht : st2.tr = st.tr ++ t0)
    (hm : mapLoop cfg.key cfg.value (kv :: rest) acc =
      (mapLoop cfg.key cfg.value rest acc').map fun r =>
        { r with ks := esKs es0 ++ r.ks, shape := esShape es0 ++ r.shape, errs := esErrs es0 ++ r.errs, t := t0 ++ r.t })
    (ih : PairsOK o cfg x aw rest st2 acc' (es ++ es0) cv) : PairsOK o cfg x aw (kv :: rest) st acc es cv := by
  unfold PairsOK at ih ⊢
  obtain ⟨i1, i2, i3⟩ := ih
  rw [hf, hm]
  cases hl : mapLoop cfg.key cfg.value rest acc' with
  | none => exact ⟨fun _ => i1 hl, fun r e h => by simp at h, fun r h => by simp at h⟩
  | some r' =>
    refine ⟨fun h => by simp at h, fun r e h hr => ?_, fun r h hr => ?_⟩ <;>
      simp only [Option.map_some, Option.some.injEq] at h <;> subst h
    · rw [i2 r' e hl hr, ht, List.append_assoc]
    · obtain ⟨st3, es', j1, j2, j3, j4, j5, j6⟩ := i3 r' hl hr
      refine ⟨st3, es0 ++ es', j1, by rw [j2, ht, List.append_assoc], by rw [← List.append_assoc]; exact j3, ?_, ?_, ?_⟩
      · simp only [esKs, List.map_append, j4]
      · simp only [esShape, List.map_append, j5]
      · simp only [esErrs, List.flatMap_append, j6]

/-- a pair at least one part of which is rejected: filed under its original key, nothing stored -/
theorem mforFold2_pairs_err (o : Oracle) (cfg : MapCfg) (x : PyVal) (aw : Bool) (k v : PyVal) (rest : List (PyVal × PyVal))
    (st : MSt) (acc : List (PyVal × PyVal)) (es : List (PyVal × KVE)) (cv : MV) (hinv : MapInv st acc es cv)
    (ko vo : Out) (tk tv : List Ev) (hk : cfg.key k = some (ko, tk)) (hv : cfg.value v = some (vo, tv))
    (hko : ∀ e, ko ≠ .raised e) (hvo : ∀ e, vo ≠ .raised e) (hbad : ∀ a b, ¬ (ko = .valid a ∧ vo = .valid b))
    (ih : ∀ (st : MSt) (acc : List (PyVal × PyVal)) (es : List (PyVal × KVE)) (cv : MV), MapInv st acc es cv →
      PairsOK o cfg x aw rest st acc es cv) :
    PairsOK o cfg x aw ((k, v) :: rest) st acc es cv := by
  have hround : ∃ st2, MStmt.execL o cfg x { st with env := { st.env with key := .py k, valU := .py v } } (mLoopBody aw) =
      .ok (.next st2) ∧ MapInv st2 acc (es ++ [(k, (invOf ko, invOf vo))]) cv ∧ st2.tr = st.tr ++ (tk ++ tv) := by
    rw [mLoopBody_exec o cfg x aw _ k v rfl rfl, callMapChild_ok _ _ _ _ _ hk hko]
    simp only
    rw [callMapChild_ok _ _ _ _ _ hv hvo]
    exact ⟨_, mStore_invalid o cfg x
      ⟨{ st.env with key := .py k, valU := .py v, keyResult := .resObj ko, valResult := .resObj vo }, st.tr ++ tk ++ tv⟩
      k ko vo es rfl rfl rfl hinv.er hko hvo hbad, ⟨hinv.rd, .inr ⟨by simp, rfl⟩, hinv.cv⟩, List.append_assoc _ _ _⟩
  obtain ⟨st2, hround, hinv2, ht2⟩ := hround
  refine pairsOK_step (es0 := [(k, (invOf ko, invOf vo))]) (by rw [mforFold2_unfold, hround]) ht2 ?_ (ih _ acc _ cv hinv2)
  cases ko with
  | raised e => exact absurd rfl (hko e)
  | valid a =>
    cases vo with
    | raised e => exact absurd rfl (hvo e)
    | valid b => exact absurd ⟨rfl, rfl⟩ (hbad a b)
    | invalid ve => simp only [mapLoop, hk, hv]; cases mapLoop cfg.key cfg.value rest acc <;> rfl
  | invalid ke =>
    cases vo with
    | raised e => exact absurd rfl (hvo e)
    | valid b => simp only [mapLoop, hk, hv]; cases mapLoop cfg.key cfg.value rest acc <;> rfl
    | invalid ve => simp only [mapLoop, hk, hv]; cases mapLoop cfg.key cfg.value rest acc <;> rfl

theorem mforFold2_pairs (o : Oracle) (cfg : MapCfg) (x : PyVal) (aw : Bool) :
    ∀ (kvs : List (PyVal × PyVal)) (st : MSt) (acc : List (PyVal × PyVal)) (es : List (PyVal × KVE)) (cv : MV),
      MapInv st acc es cv → PairsOK o cfg x aw kvs st acc es cv := by
  intro kvs
  induction kvs with
  | nil =>
    intro st acc es cv hinv
    unfold PairsOK
    refine ⟨fun h => by simp [mapLoop] at h, fun r e h hr => ?_, fun r h _ => ?_⟩ <;>
      simp only [mapLoop, Option.some.injEq] at h <;> subst h
    · simp at hr
    · exact ⟨st, [], rfl, (List.append_nil _).symm, by rw [List.append_nil]; exact hinv, rfl, rfl, rfl⟩
  | cons kv rest ih =>
    intro st acc es cv hinv
    obtain ⟨k, v⟩ := kv
    have hbody := mLoopBody_exec o cfg x aw { st with env := { st.env with key := .py k, valU := .py v } } k v rfl rfl
    rcases hk : cfg.key k with _ | ⟨ko, tk⟩
    · exact pairsOK_diverge st.tr (by simp only [mapLoop, hk]) (by rw [mforFold2_unfold, hbody]; simp only [callMapChild, hk])
    · cases ko with
      | raised e0 =>
        exact pairsOK_raised e0 tk (by simp only [mapLoop, hk]) (by rw [mforFold2_unfold, hbody]; simp only [callMapChild, hk])
      | valid kw =>
        rw [callMapChild_ok _ _ _ _ _ hk (by simp)] at hbody
        rcases hv : cfg.value v with _ | ⟨vo, tv⟩
        · exact pairsOK_diverge (st.tr ++ tk) (by simp only [mapLoop, hk, hv])
            (by rw [mforFold2_unfold, hbody]; simp only [callMapChild, hv])
        · cases vo with
          | raised e0 =>
            exact pairsOK_raised e0 (tk ++ tv) (by simp only [mapLoop, hk, hv])
              (by rw [mforFold2_unfold, hbody]; simp only [callMapChild, hv, List.append_assoc])
          | valid vw =>
            simp only at hbody
            rw [callMapChild_ok _ _ _ _ _ hv (by simp)] at hbody
            simp only [mStore_valid o cfg x
              ⟨{ st.env with key := .py k, valU := .py v, keyResult := .resObj (.valid kw), valResult := .resObj (.valid vw) },
                st.tr ++ tk ++ tv⟩ kw vw acc rfl rfl hinv.rd] at hbody
            by_cases hh : hashable kw = true
            · -- stored
              obtain ⟨st2, hround, hinv2, ht2⟩ : ∃ st2, MStmt.execL o cfg x
                  { st with env := { st.env with key := .py k, valU := .py v } } (mLoopBody aw) = .ok (.next st2) ∧
                  MapInv st2 (dictSet acc kw vw) (es ++ []) cv ∧ st2.tr = st.tr ++ (tk ++ tv) := by
                rw [hbody, if_pos hh]
                exact ⟨_, rfl, ⟨rfl, by rw [List.append_nil]; exact hinv.er, hinv.cv⟩, List.append_assoc _ _ _⟩
              refine pairsOK_step (es0 := []) (by rw [mforFold2_unfold, hround]) ht2 ?_ (ih _ _ _ cv hinv2)
              simp only [mapLoop, hk, hv, hh, Bool.not_true, Bool.false_eq_true, if_false]
              cases mapLoop cfg.key cfg.value rest (dictSet acc kw vw) <;> rfl
            · rw [Bool.not_eq_true] at hh
              rw [hh, if_neg Bool.false_ne_true] at hbody
              exact pairsOK_raised .typeError (tk ++ tv) (by simp only [mapLoop, hk, hv, hh, Bool.not_false, if_true])
                (by rw [mforFold2_unfold, hbody, List.append_assoc])
          | invalid ve =>
            exact mforFold2_pairs_err o cfg x aw k v rest st acc es cv hinv _ _ tk tv hk hv (by simp) (by simp) (by simp) ih
      | invalid ke =>
        rw [callMapChild_ok _ _ _ _ _ hk (by simp)] at hbody
        rcases hv : cfg.value v with _ | ⟨vo, tv⟩
        · exact pairsOK_diverge (st.tr ++ tk) (by simp only [mapLoop, hk, hv])
            (by rw [mforFold2_unfold, hbody]; simp only [callMapChild, hv])
        · cases vo with
          | raised e0 =>
            exact pairsOK_raised e0 (tk ++ tv) (by simp only [mapLoop, hk, hv])
              (by rw [mforFold2_unfold, hbody]; simp only [callMapChild, hv, List.append_assoc])
          | valid vw | invalid ve =>
            exact mforFold2_pairs_err o cfg x aw k v rest st acc es cv hinv _ _ tk tv hk hv (by simp) (by simp) (by simp) ih

theorem esErrs_eq (es : List (PyVal × KVE)) (vid : Nat) (y : PyVal) :
    mapErrInv vid y es = .mk (.map (esKs es) (esShape es)) y vid (esErrs es) := rfl

theorem mFinal_exec (o : Oracle) (cfg : MapCfg) (x : PyVal) (st : MSt) (y : PyVal) (acc : List (PyVal × PyVal))
    (es : List (PyVal × KVE)) (hinv : MapInv st acc es (.py y)) :
    outM (MStmt.execL o cfg x st [mFinal]) =
      some (if es.isEmpty then (.valid (.dict 0 acc), st.tr)
            else (.invalid (.mk (.map (esKs es) (esShape es)) y cfg.vid (esErrs es)), st.tr)) := by
  have hrd : st.env.get .returnDict = .dictPayload acc := hinv.rd
  have hcv : st.env.get .coercedVal = .py y := hinv.cv
  rw [mexecL_single, mFinal, mexec_ite]
  rcases hinv.er with ⟨rfl, h2⟩ | ⟨hne, h2⟩
  · have h2' : st.env.get .errors = .dictPayload [] := h2
    simp only [MExp.eval, h2', mtruthy, List.isEmpty_nil, Bool.not_true, mexecL_single, MStmt.exec, hrd, outM, if_true]
  · have h2' : st.env.get .errors = .mapErrs es := h2
    cases es with
    | nil => exact absurd rfl hne
    | cons a l =>
      simp only [MExp.eval, h2', hcv, mtruthy, List.isEmpty_cons, Bool.not_false, mexecL_single, MStmt.exec, outM, esErrs_eq,
        Bool.false_eq_true, if_false]

theorem mLoop_exec (o : Oracle) (cfg : MapCfg) (x : PyVal) (aw : Bool) (st : MSt) (y : PyVal) (hy : st.env.coercedVal = .py y) :
    MStmt.exec o cfg x st (mLoop aw) =
      (match dictItems y with
       | none => .error (.exn .attributeError, st.tr)
       | some kvs => mforFold2 (fun st => MStmt.execL o cfg x st (mLoopBody aw)) .key .valU kvs st) := by
  have hcv : st.env.get .coercedVal = .py y := hy
  simp only [mLoop, MStmt.exec, MExp.eval, hcv]
  cases dictItems y <;> rfl

theorem mTail_exec (o : Oracle) (cfg : MapCfg) (x : PyVal) (aw : Bool) (st : MSt) (y : PyVal)
    (hy : st.env.coercedVal = .py y) :
    outM (MStmt.execL o cfg x st (mTail aw)) =
      (match dictItems y with
       | none => some (.raised .attributeError, st.tr)
       | some kvs =>
         match mapLoop cfg.key cfg.value kvs [] with
         | none => none
         | some r => some (mapFinish cfg.vid y st.tr r)) := by
  have hinv0 : MapInv { st with env := { st.env with returnDict := .dictPayload [], errors := .dictPayload [] } } [] [] (.py y) :=
    ⟨rfl, .inl ⟨rfl, rfl⟩, hy⟩
  have hinit : MStmt.execL o cfg x st (mTail aw) =
      MStmt.execL o cfg x { st with env := { st.env with returnDict := .dictPayload [], errors := .dictPayload [] } }
        [mLoop aw, mFinal] := by
    simp only [mTail, mexecL_cons, mexec_assign, MExp.eval]; rfl
  rw [hinit, mexecL_cons, mLoop_exec o cfg x aw _ y hinv0.cv]
  cases dictItems y with
  | none => rfl
  | some kvs =>
    obtain ⟨l1, l2, l3⟩ := mforFold2_pairs o cfg x aw kvs _ [] [] (.py y) hinv0
    simp only
    cases hl : mapLoop cfg.key cfg.value kvs [] with
    | none =>
      obtain ⟨t, ht⟩ := l1 hl
      rw [ht]; rfl
    | some r =>
      cases hr : r.r with
      | some e => rw [l2 r e hl hr]; simp only [mapFinish, hr]; rfl
      | none =>
        obtain ⟨st1, es', h1, h2, h3, h4, h5, h6⟩ := l3 r hl hr
        rw [h1]
        simp only
        rw [mFinal_exec o cfg x st1 y r.out es' h3, h2]
        simp only [mapFinish, hr, h4, h5, h6]
        cases es' <;> rfl

theorem map_method (o : Oracle) (cfg : MapCfg) (x : PyVal) (m : Mode) (stage : List MStmt) (aw : Bool)
    (hstage : MPredsStage o cfg x m stage) (hm : ¬ (m = .sync ∧ cfg.apreds.getD [] ≠ [])) :
    outM (MStmt.execL o cfg x { env := {}, tr := [] } (mGate :: (stage ++ mTail aw))) =
      mapStep o m cfg.vid (cfg.preds.getD []) (cfg.apreds.getD []) cfg.coerce cfg.key cfg.value x := by
  obtain ⟨p, hp⟩ : ∃ p, mapPre o m cfg.vid (cfg.preds.getD []) (cfg.apreds.getD []) cfg.coerce x = p := ⟨_, rfl⟩
  obtain ⟨ml, mr⟩ := (mapPre_eq_iff.mp hp).method (cv := fun st y => st.env.coercedVal = .py y) (trOf := (·.tr)) hm
    (hgate := mGate_exec o cfg x { env := {}, tr := [] } (stage ++ mTail aw)) (hstage := fun st y h => hstage st y _ h)
    (T := fun y its t => match its with
      | none => some (.raised .attributeError, t)
      | some kvs => match mapLoop cfg.key cfg.value kvs [] with
        | none => none
        | some r => some (mapFinish cfg.vid y t r))
    (hT := fun _ _ => rfl) (htail := fun st y h => mTail_exec o cfg x aw st y h)
  rw [mapStep, hp]
  rcases p with r | ⟨y, kvs, t⟩
  · exact ml r rfl
  · exact mr y kvs t rfl

/-- **the synchronous map validator, as written in the source, is the model's `mapStep`** -/
theorem src_map_sync (o : Oracle) (cfg : MapCfg) (x : PyVal) :
    runMapMethod o cfg Src.mapSync x =
      mapStep o .sync cfg.vid (cfg.preds.getD []) (cfg.apreds.getD []) cfg.coerce cfg.key cfg.value x := by
  rw [runMapMethod_eq, mapSync_eq, mGuard_exec]
  by_cases hap : cfg.apreds.getD [] = []
  · rw [if_neg (fun h => h hap)]
    exact map_method o cfg x .sync _ false (mStage_exec o cfg x false) (fun h => h.2 hap)
  · rw [if_pos hap, mapStep, mapPre_eq_iff.mpr (.guard rfl hap)]; rfl

/-- **the asynchronous map validator, as written in the source, is the model's `mapStep`** -/
theorem src_map_async (o : Oracle) (cfg : MapCfg) (x : PyVal) :
    runMapMethod o cfg Src.mapAsync x =
      mapStep o .async cfg.vid (cfg.preds.getD []) (cfg.apreds.getD []) cfg.coerce cfg.key cfg.value x := by
  rw [runMapMethod_eq, mapAsync_eq]
  exact map_method o cfg x .async _ true (mStage_exec o cfg x true) (fun h => Mode.noConfusion h.1)

theorem src_map_init : Src.mapInit =
    "self.key_validator = key ; self.value_validator = value ; self.predicates = predicates ; self.predicates_async = predicates_async ; self.coerce = coerce" := rfl

/-! ### non-vacuity: `MapValidator(key=StringValidator(), value=IntValidator())` on `{"a": 1, 2: "x"}` -/

example : runMapMethod default
      ⟨1, fun y => some (scalarStep default .sync 2 .str none [] [] [] y),
          fun y => some (scalarStep default .sync 3 .int none [] [] [] y), none, none, none⟩ Src.mapSync
      (.dict 9 [(.str [97], .int 1), (.int 2, .str [120])]) =
    some (.invalid (.mk (.map [.int 2] [(true, true)]) (.dict 9 [(.str [97], .int 1), (.int 2, .str [120])]) 1
      [.mk (.type .str) (.int 2) 2 [], .mk (.type .int) (.str [120]) 3 []]), []) := by
  rw [src_map_sync]; rfl

