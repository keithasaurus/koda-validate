/-
  Gates and container levels: what `applyCoerce` / `gate` / `recGate` can return (`Gate.Wf`), and what
  each of `seqPre`, `mapPre`, `ntuplePre`, `recPre` does, as a relation with one constructor per outcome
  (`ContPre`, `NtuplePre`, `RecPre`) that is the graph of the function (`*_eq_iff`).
-/
import KodaModel.Eval

namespace Koda

def Gate.tr : Gate → List Ev
  | .acc _ t => t | .rej _ t => t | .exn _ t => t

def CoerceLog (t : List Ev) : Prop := t = [] ∨ ∃ cid, t = [.coerce cid]

inductive Gate.Wf : Gate → Prop
  | acc (y : PyVal) {t : List Ev} : CoerceLog t → Wf (.acc y t)
  | type (ty : Ty) : Wf (.rej (.type ty) [])
  | coercion (compat : List Ty) (dest : Ty) {t : List Ev} : CoerceLog t → Wf (.rej (.coercion compat dest) t)

theorem Gate.Wf.log {g : Gate} (h : g.Wf) : CoerceLog g.tr := by
  cases h with
  | acc _ ht => exact ht
  | type => exact .inl rfl
  | coercion _ _ ht => exact ht

theorem Gate.Wf.ne_exn {g : Gate} (h : g.Wf) (e : Exn) (t : List Ev) : g ≠ .exn e t := by
  intro hg; subst hg; cases h

def CoerceK.compat (target : Ty) (cls : ClassId) : CoerceK → List Ty
  | .dflt => defaultCompat target
  | .classOnly => [.cls cls]
  | .user _ compat _ => compat

theorem applyCoerce_cases (o : Oracle) (tg d : Ty) (cls : ClassId) (c : CoerceK) (x : PyVal) :
    ∃ t, CoerceLog t ∧
      ((∃ y, applyCoerce o tg d cls c x = .acc y t) ∨
        applyCoerce o tg d cls c x = .rej (.coercion (c.compat tg cls) d) t) := by
  fun_cases applyCoerce o tg d cls c x
  case case7 cid compat f y h => exact ⟨_, .inr ⟨cid, rfl⟩, .inl ⟨_, rfl⟩⟩
  case case8 cid compat f h => exact ⟨_, .inr ⟨cid, rfl⟩, .inr rfl⟩
  all_goals first | exact ⟨[], .inl rfl, .inl ⟨_, rfl⟩⟩ | exact ⟨[], .inl rfl, .inr rfl⟩

theorem applyCoerce_wf (o : Oracle) (tg d : Ty) (cls : ClassId) (c : CoerceK) (x : PyVal) :
    (applyCoerce o tg d cls c x).Wf := by
  obtain ⟨t, ht, ⟨y, h⟩ | h⟩ := applyCoerce_cases o tg d cls c x
  · rw [h]; exact .acc y ht
  · rw [h]; exact .coercion _ _ ht

theorem applyCoerce_rej_kind {o tg d cls c x k t} (h : applyCoerce o tg d cls c x = .rej k t) : k = .coercion (c.compat tg cls) d := by
  obtain ⟨t', _, ⟨y, h'⟩ | h'⟩ := applyCoerce_cases o tg d cls c x
  · rw [h'] at h; cases h
  · rw [h'] at h; cases h; rfl

theorem applyCoerce_acc {o tg d cls c x y t} (h : applyCoerce o tg d cls c x = .acc y t) :
    (c = .dflt ∧ defaultCoerce o tg x = some y) ∨
    (c = .classOnly ∧ ∃ oid doid doid' names vals, x = .inst oid doid cls names vals ∧ y = instDict doid' names vals) ∨
    ∃ cid compat f, c = .user cid compat f ∧ f x = some y := by
  revert h
  fun_cases applyCoerce o tg d cls c x <;> intro h <;> cases h
  case case1 hd => exact .inl ⟨rfl, hd⟩
  case case3 | case4 => exact .inr (.inl ⟨rfl, _, _, _, _, _, rfl, rfl⟩)
  case case7 cid compat f hf => exact .inr (.inr ⟨_, _, _, rfl, hf⟩)

theorem gate_wf (o : Oracle) (tg d : Ty) (c : Option CoerceK) (x : PyVal) : (gate o tg d c x).Wf := by
  cases c with
  | some c => exact applyCoerce_wf o tg d default c x
  | none =>
    simp only [gate]
    split
    · exact .acc _ (.inl rfl)
    · exact .type _

theorem recGate_wf (o : Oracle) (cfg : RecCfg) (x : PyVal) : (recGate o cfg x).Wf := by
  fun_cases recGate o cfg x
  case case5 | case8 => exact applyCoerce_wf ..
  case case2 | case4 | case7 => exact .type _
  case case12 | case13 => exact .coercion _ _ (.inl rfl)
  all_goals exact .acc _ (.inl rfl)

theorem applyCoerce_eq_wf {o tg d cls c x g} (h : applyCoerce o tg d cls c x = g) : g.Wf := h ▸ applyCoerce_wf ..
theorem gate_eq_wf {o tg d c x g} (h : gate o tg d c x = g) : g.Wf := h ▸ gate_wf ..
theorem recGate_eq_wf {o cfg x g} (h : recGate o cfg x = g) : g.Wf := h ▸ recGate_wf ..

/-- `seqPre` and `mapPre` at once: `items` reads the elements off the gated container, `exn` is what
    Python raises when it cannot -/
inductive ContPre {α : Type} (gateTy destTy : Ty) (items : PyVal → Option α) (exn : Exn) (o : Oracle) (m : Mode)
    (vid : Nat) (ps aps : List Pred) (c : Option CoerceK) (x : PyVal) :
    (Out × List Ev) ⊕ (PyVal × α × List Ev) → Prop
  | guard : m = .sync → aps ≠ [] → ContPre gateTy destTy items exn o m vid ps aps c x (.inl (.raised .assertion, []))
  | rej {ek t} : ¬ (m = .sync ∧ aps ≠ []) → gate o gateTy destTy c x = .rej ek t →
      ContPre gateTy destTy items exn o m vid ps aps c x (.inl (.invalid (.mk ek x vid []), t))
  | predExn {y t f t2 e} : ¬ (m = .sync ∧ aps ≠ []) → gate o gateTy destTy c x = .acc y t →
      contPreds m ps aps y = (f, t2, some e) →
      ContPre gateTy destTy items exn o m vid ps aps c x (.inl (.raised e, t ++ t2))
  | predFail {y t a f t2} : ¬ (m = .sync ∧ aps ≠ []) → gate o gateTy destTy c x = .acc y t →
      contPreds m ps aps y = (a :: f, t2, none) →
      ContPre gateTy destTy items exn o m vid ps aps c x (.inl (.invalid (.mk (.preds (a :: f)) y vid []), t ++ t2))
  | noItems {y t t2} : ¬ (m = .sync ∧ aps ≠ []) → gate o gateTy destTy c x = .acc y t →
      contPreds m ps aps y = ([], t2, none) → items y = none →
      ContPre gateTy destTy items exn o m vid ps aps c x (.inl (.raised exn, t ++ t2))
  | pass {y t t2 xs} : ¬ (m = .sync ∧ aps ≠ []) → gate o gateTy destTy c x = .acc y t →
      contPreds m ps aps y = ([], t2, none) → items y = some xs →
      ContPre gateTy destTy items exn o m vid ps aps c x (.inr (y, xs, t ++ t2))

theorem ContPre.inr_iff {α gateTy destTy} {items : PyVal → Option α} {exn o m vid ps aps c x y xs t} :
    ContPre gateTy destTy items exn o m vid ps aps c x (.inr (y, xs, t)) ↔
      ¬ (m = .sync ∧ aps ≠ []) ∧
      ∃ t0 t1, gate o gateTy destTy c x = .acc y t0 ∧ contPreds m ps aps y = ([], t1, none) ∧
        items y = some xs ∧ t = t0 ++ t1 := by
  constructor
  · intro h; cases h with
    | pass hg h hp hi => exact ⟨hg, _, _, h, hp, hi, rfl⟩
  · rintro ⟨hg, t0, t1, h, hp, hi, rfl⟩; exact .pass hg h hp hi

theorem ContPre.inl_not_valid {α gateTy destTy} {items : PyVal → Option α} {exn o m vid ps aps c x r}
    (h : ContPre gateTy destTy items exn o m vid ps aps c x (.inl r)) (w : PyVal) : r.1 ≠ .valid w := by
  cases h <;> exact Out.noConfusion

theorem ContPre.exists {α} (gateTy destTy : Ty) (items : PyVal → Option α) (exn o m vid ps aps c x) :
    ∃ p, ContPre gateTy destTy items exn o m vid ps aps c x p := by
  by_cases hg : m = .sync ∧ aps ≠ []
  · exact ⟨_, .guard hg.1 hg.2⟩
  · cases h : gate o gateTy destTy c x with
    | exn e t => exact absurd h ((gate_wf ..).ne_exn e t)
    | rej ek t => exact ⟨_, .rej hg h⟩
    | acc y t =>
      rcases hp : contPreds m ps aps y with ⟨f, t2, _ | e⟩
      · cases f with
        | cons a f => exact ⟨_, .predFail hg h hp⟩
        | nil =>
          cases hi : items y with
          | none => exact ⟨_, .noItems hg h hp hi⟩
          | some xs => exact ⟨_, .pass hg h hp hi⟩
      · exact ⟨_, .predExn hg h hp⟩

/-- a function that takes the value each constructor prescribes has `ContPre` as its graph, since some
    constructor always applies -/
theorem ContPre.graph {α gateTy destTy} {items : PyVal → Option α} {exn o m vid ps aps c x F p}
    (eval : ∀ {q}, ContPre gateTy destTy items exn o m vid ps aps c x q → F = q) :
    F = p ↔ ContPre gateTy destTy items exn o m vid ps aps c x p := by
  refine ⟨fun h => ?_, eval⟩
  obtain ⟨q, hq⟩ := ContPre.exists gateTy destTy items exn o m vid ps aps c x
  rwa [← h, eval hq]

theorem seqPre_eq_iff {k o m vid ps aps c x p} : seqPre k o m vid ps aps c x = p ↔
      ContPre k.gateTy k.destTy pyIter .typeError o m vid ps aps c x p :=
  ContPre.graph fun h => by cases h <;> simp [seqPre, *]

theorem mapPre_eq_iff {o m vid ps aps c x p} : mapPre o m vid ps aps c x = p ↔
      ContPre .dict .dict dictItems .attributeError o m vid ps aps c x p :=
  ContPre.graph fun h => by cases h <;> simp [mapPre, *]

inductive NtuplePre (o : Oracle) (vid : Nat) (c : Option CoerceK) (lenPid arity : Nat) (x : PyVal) :
    (Out × List Ev) ⊕ (PyVal × List PyVal × List Ev) → Prop
  | rej {ek t} : gate o .tuple .list c x = .rej ek t →
      NtuplePre o vid c lenPid arity x (.inl (.invalid (.mk ek x vid []), t))
  | noLen {y t} : gate o .tuple .list c x = .acc y t → pyLen y = none →
      NtuplePre o vid c lenPid arity x (.inl (.raised .typeError, t))
  | arity {y t n} : gate o .tuple .list c x = .acc y t → pyLen y = some n → n ≠ arity →
      NtuplePre o vid c lenPid arity x (.inl (.invalid (.mk (.preds [lenPid]) y vid []), t))
  | noItems {y t} : gate o .tuple .list c x = .acc y t → pyLen y = some arity → pyIter y = none →
      NtuplePre o vid c lenPid arity x (.inl (.raised .typeError, t))
  | pass {y t xs} : gate o .tuple .list c x = .acc y t → pyLen y = some arity → pyIter y = some xs →
      NtuplePre o vid c lenPid arity x (.inr (y, xs, t))

theorem ntuplePre_eq_iff {o vid c lp arity x p} :
    ntuplePre o vid c lp arity x = p ↔ NtuplePre o vid c lp arity x p := by
  constructor
  · rintro rfl
    fun_cases ntuplePre o vid c lp arity x
    case case1 e t h => exact absurd h ((gate_wf ..).ne_exn e t)
    case case2 ek t h => exact .rej h
    case case3 y t h hl => exact .noLen h hl
    case case4 y t h n hl hn => exact .arity h hl hn
    case case5 y t h n hl hn hi => cases Decidable.not_not.1 hn; exact .noItems h hl hi
    case case6 y t h n hl hn xs hi => cases Decidable.not_not.1 hn; exact .pass h hl hi
  · intro h; cases h <;> simp [ntuplePre, *]

theorem NtuplePre.inr_iff {o vid c lp arity x y xs t} :
    NtuplePre o vid c lp arity x (.inr (y, xs, t)) ↔
      gate o .tuple .list c x = .acc y t ∧ pyLen y = some arity ∧ pyIter y = some xs := by
  constructor
  · intro h; cases h with
    | pass h hl hi => exact ⟨h, hl, hi⟩
  · rintro ⟨h, hl, hi⟩; exact .pass h hl hi

theorem NtuplePre.inl_not_valid {o vid c lp arity x r} (h : NtuplePre o vid c lp arity x (.inl r)) (w : PyVal) :
    r.1 ≠ .valid w := by
  cases h <;> exact Out.noConfusion

inductive RecPre (o : Oracle) (m : Mode) (vid : Nat) (cfg : RecCfg) (x : PyVal) :
    (Out × List Ev) ⊕ (PyVal × List (PyVal × PyVal) × List Ev) → Prop
  | guard : m = .sync → cfg.aoc.isSome = true → RecPre o m vid cfg x (.inl (.raised .assertion, []))
  | rej {ek t} : ¬ (m = .sync ∧ cfg.aoc.isSome = true) → recGate o cfg x = .rej ek t →
      RecPre o m vid cfg x (.inl (.invalid (.mk ek x vid []), t))
  | noItems {y t} : ¬ (m = .sync ∧ cfg.aoc.isSome = true) → recGate o cfg x = .acc y t → dictItems y = none →
      RecPre o m vid cfg x (.inl (.raised .typeError, t))
  | unknown {y t data} : ¬ (m = .sync ∧ cfg.aoc.isSome = true) → recGate o cfg x = .acc y t →
      dictItems y = some data → (cfg.failUnknown && hasUnknownKey cfg.keys data) = true →
      RecPre o m vid cfg x (.inl (.invalid (.mk (.extraKeys cfg.keys) y vid []), t))
  | pass {y t data} : ¬ (m = .sync ∧ cfg.aoc.isSome = true) → recGate o cfg x = .acc y t →
      dictItems y = some data → ¬ (cfg.failUnknown && hasUnknownKey cfg.keys data) = true →
      RecPre o m vid cfg x (.inr (y, data, t))

theorem recPre_eq_iff {o m vid cfg x p} :
    recPre o m vid cfg x = p ↔ RecPre o m vid cfg x p := by
  constructor
  · rintro rfl
    fun_cases recPre o m vid cfg x
    case case1 h => exact .guard h.1 h.2
    case case2 hg e t h => exact absurd h ((recGate_wf ..).ne_exn e t)
    case case3 hg ek t h => exact .rej hg h
    case case4 hg y t h hd => exact .noItems hg h hd
    case case5 hg y t h data hd hu => exact .unknown hg h hd hu
    case case6 hg y t h data hd hu => exact .pass hg h hd hu
  · intro h; cases h <;> simp [recPre, *]

theorem RecPre.inr_iff {o m vid cfg x y data t} :
    RecPre o m vid cfg x (.inr (y, data, t)) ↔
      ¬ (m = .sync ∧ cfg.aoc.isSome) ∧ recGate o cfg x = .acc y t ∧ dictItems y = some data ∧
      ¬ (cfg.failUnknown = true ∧ hasUnknownKey cfg.keys data = true) := by
  constructor
  · intro h; cases h with
    | pass hg h hd hu => exact ⟨hg, h, hd, fun hh => hu (Bool.and_eq_true _ _ ▸ hh)⟩
  · rintro ⟨hg, h, hd, hu⟩; exact .pass hg h hd (fun hh => hu (Bool.and_eq_true _ _ ▸ hh))

theorem RecPre.inl_not_valid {o m vid cfg x r} (h : RecPre o m vid cfg x (.inl r)) (w : PyVal) :
    r.1 ≠ .valid w := by
  cases h <;> exact Out.noConfusion

end Koda
