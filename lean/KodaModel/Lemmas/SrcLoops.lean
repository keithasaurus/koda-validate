/-
  What the proofs about the translated sources share.  Each interpreter has its own state type, so each fact is about
  *some* interpreter over *any* state: if one round of a loop does what the model does for one predicate, element or
  preprocessor, the loop computes what the model computes for the list; a method's gate and predicate stages as
  structures (`GateStage`, `PredsStage`), and a method made of such stages against the model's container level (`ContPre.method`).
-/
import KodaModel.Lemmas.Pre

namespace Koda

/-- `call` is `callListCoercer o c x`, `callSeqCoercer o k c x`, …: the coercer's answer and what it logged -/
theorem callCoercer_cases (o : Oracle) (target dest : Ty) {cls : ClassId} (c : CoerceK) (x : PyVal)
    (call : Option PyVal × List Ev) (compat : List Ty)
    (hcall : call = match applyCoerce o target dest cls c x with
      | .acc y t => (some y, t) | .rej _ t => (none, t) | .exn _ t => (none, t))
    (hcompat : c.compat target cls = compat) :
    (∃ y t, applyCoerce o target dest cls c x = .acc y t ∧ call = (some y, t)) ∨
    (∃ t, applyCoerce o target dest cls c x = .rej (.coercion compat dest) t ∧ call = (none, t)) := by
  obtain ⟨t, _, ⟨y, h⟩ | h⟩ := applyCoerce_cases o target dest cls c x
  · exact .inl ⟨y, t, h, by rw [hcall, h]⟩
  · rw [hcompat] at h
    exact .inr ⟨t, h, by rw [hcall, h]⟩

def failingPreds (ps : List Pred) (z : PyVal) : List Pred :=
  ps.filter (fun p => match p.k.call z with | .ok false => true | _ => false)

theorem failingPreds_cons (p : Pred) (ps : List Pred) (z : PyVal) (b : Bool) (h : p.k.call z = .ok b) :
    failingPreds (p :: ps) z = if b then failingPreds ps z else p :: failingPreds ps z := by
  cases b <;> simp [failingPreds, h]

theorem failingPreds_nil (z : PyVal) : failingPreds [] z = [] := rfl

theorem getD_eq_some {α} (o : Option α) {d : α} (h : o.getD d ≠ d) : o = some (o.getD d) := by
  cases o with
  | none => exact absurd rfl h
  | some l => rfl

theorem contPreds_sync (ps aps : List Pred) (y : PyVal) :
    contPreds .sync ps aps y =
      match runPreds ps y with
      | (_, t, some e) => ([], t, some e)
      | (f, t, none) => (f, t, none) := by
  rcases h : runPreds ps y with ⟨f, t, _ | e⟩ <;> simp [contPreds, h]

theorem contPreds_async (ps aps : List Pred) (y : PyVal) :
    contPreds .async ps aps y =
      match runPreds ps y with
      | (_, t, some e) => ([], t, some e)
      | (f, t, none) => (f ++ (runAPreds aps y).1, t ++ (runAPreds aps y).2.1, (runAPreds aps y).2.2) := by
  rcases h : runPreds ps y with ⟨f, t, _ | e⟩ <;> simp [contPreds, h]

/-- `run` is `runPreds · z` (with `ev = Pred.ev`) or `runAPreds · z`, given by its two equations; `I st qs`: `st` has
    collected the predicates `qs` -/
theorem predLoop_spec {σ ρ : Type} (z : PyVal) (ev : Pred → List Ev)
    (run : List Pred → List Nat × List Ev × Option Exn) (run_nil : run [] = ([], [], none))
    (run_cons : ∀ p ps, run (p :: ps) =
      match p.k.call z with
      | .error e => ([], ev p, some e)
      | .ok b => (if b then (run ps).1 else p.pid :: (run ps).1, ev p ++ (run ps).2.1, (run ps).2.2))
    (loop : List Pred → σ → ρ) (tr : σ → List Ev) (I : σ → List Pred → Prop) (ok : σ → ρ) (err : Exn → List Ev → ρ)
    (loop_nil : ∀ st, loop [] st = ok st)
    (loop_cons : ∀ p ps st qs, I st qs →
      (∀ e, p.k.call z = .error e → loop (p :: ps) st = err e (tr st ++ ev p)) ∧
      (∀ b, p.k.call z = .ok b →
        ∃ st', loop (p :: ps) st = loop ps st' ∧ tr st' = tr st ++ ev p ∧ I st' (if b then qs else qs ++ [p]))) :
    ∀ (ps : List Pred) (st : σ) (qs : List Pred), I st qs →
      (∀ f t e, run ps = (f, t, some e) → loop ps st = err e (tr st ++ t)) ∧
      (∀ f t, run ps = (f, t, none) →
        f = (failingPreds ps z).map (·.pid) ∧ ∃ st', loop ps st = ok st' ∧ tr st' = tr st ++ t ∧ I st' (qs ++ failingPreds ps z)) := by
  intro ps
  induction ps with
  | nil =>
    intro st qs hI
    rw [run_nil, loop_nil]
    refine ⟨fun f t e h => by simp at h, fun f t h => ?_⟩
    simp only [Prod.mk.injEq] at h
    obtain ⟨rfl, rfl, _⟩ := h
    exact ⟨rfl, st, rfl, by simp, by simpa [failingPreds] using hI⟩
  | cons p ps ih =>
    intro st qs hI
    obtain ⟨c1, c2⟩ := loop_cons p ps st qs hI
    rw [run_cons]
    cases hcall : p.k.call z with
    | error e0 =>
      refine ⟨fun f t e h => ?_, fun f t h => by simp at h⟩
      simp only [Prod.mk.injEq, Option.some.injEq] at h
      obtain ⟨_, rfl, rfl⟩ := h
      exact c1 e0 hcall
    | ok b =>
      obtain ⟨st', hstep, htr, hI'⟩ := c2 b hcall
      obtain ⟨i1, i2⟩ := ih st' _ hI'
      rw [hstep, failingPreds_cons p ps z b hcall]
      refine ⟨fun f t e h => ?_, fun f t h => ?_⟩
      · simp only [Prod.mk.injEq] at h
        obtain ⟨_, rfl, he⟩ := h
        rw [i1 (run ps).1 (run ps).2.1 e (Prod.ext rfl (Prod.ext rfl he)), htr, List.append_assoc]
      · simp only [Prod.mk.injEq] at h
        obtain ⟨rfl, rfl, he⟩ := h
        obtain ⟨hf, st'', h1, h2, h3⟩ := i2 (run ps).1 (run ps).2.1 (Prod.ext rfl (Prod.ext rfl he))
        refine ⟨?_, st'', h1, by rw [h2, htr, List.append_assoc], ?_⟩
        · rw [hf]; cases b <;> rfl
        · cases b
          · simpa [List.append_assoc] using h3
          · exact h3

/-- the no-error flag is only looked at where payloads must be hashable -/
theorem loopItems_ne (ev : Ev1) : ∀ (xs : List PyVal) (i : Nat) (a b : Bool),
    loopItems ev false xs i a = loopItems ev false xs i b := by
  intro xs
  induction xs with
  | nil => intro i a b; rfl
  | cons x xs ih =>
    intro i a b
    simp only [loopItems, Bool.false_and, Bool.false_eq_true, if_false, ih (i + 1) a b]

theorem loopResult_cases {r? : Option LoopR} {A : Prop} {B : LoopR → Exn → Prop} {C : LoopR → Prop}
    (h : match r? with
      | none => A
      | some r => match r.r with | some e => B r e | none => C r) :
    (r? = none → A) ∧ (∀ r e, r? = some r → r.r = some e → B r e) ∧ (∀ r, r? = some r → r.r = none → C r) := by
  refine ⟨fun h0 => by rw [h0] at h; exact h, fun r e h1 h2 => ?_, fun r h1 h2 => ?_⟩ <;>
    simp only [h1, h2] at h <;> exact h

/-- `I st rl ie`: `st` holds the payloads `rl` (kept only while no error has been seen) and the errors `ie`.  Since the
    source stops collecting payloads at the first error, the conclusion knows the payload list only when there was none
    (`ie ++ r.es = []`); otherwise some `rl'` is left.  `diverges` is what the interpreter's loop does when a child runs out of fuel. -/
theorem itemsLoop_spec {σ ρ : Type} (item : Ev1) (hashReq : Bool) (loop : List PyVal → Nat → σ → ρ) (tr : σ → List Ev)
    (I : σ → List PyVal → List (Nat × Inv) → Prop) (ok : σ → ρ) (err : Exn → List Ev → ρ) (diverges : ρ → Prop)
    (loop_nil : ∀ n st, loop [] n st = ok st)
    (loop_cons : ∀ y ys n st rl ie, I st rl ie →
      match item y with
      | none => diverges (loop (y :: ys) n st)
      | some (.raised e, t) => loop (y :: ys) n st = err e (tr st ++ t)
      | some (.valid w, t) =>
        if (hashReq && ie.isEmpty && !hashable w) = true then loop (y :: ys) n st = err .typeError (tr st ++ t)
        else ∃ st1, loop (y :: ys) n st = loop ys (n + 1) st1 ∧ I st1 (if ie.isEmpty then rl ++ [w] else rl) ie ∧
          tr st1 = tr st ++ t
      | some (.invalid e, t) =>
        ∃ st1, loop (y :: ys) n st = loop ys (n + 1) st1 ∧ I st1 rl (ie ++ [(n, e)]) ∧ tr st1 = tr st ++ t) :
    ∀ (xs : List PyVal) (n : Nat) (st : σ) (rl : List PyVal) (ie : List (Nat × Inv)), I st rl ie →
      match loopItems item hashReq xs n ie.isEmpty with
      | none => diverges (loop xs n st)
      | some r =>
        match r.r with
        | some e => loop xs n st = err e (tr st ++ r.t)
        | none => ∃ st1, loop xs n st = ok st1 ∧ tr st1 = tr st ++ r.t ∧
            (ie ++ r.es = [] → I st1 (rl ++ r.ws) []) ∧ ∃ rl', I st1 rl' (ie ++ r.es) := by
  intro xs
  induction xs with
  | nil =>
    intro n st rl ie hI
    simp only [loopItems]
    exact ⟨st, loop_nil n st, (List.append_nil _).symm, fun h => by rw [List.append_nil] at h ⊢; rw [← h]; exact hI,
      rl, by rw [List.append_nil]; exact hI⟩
  | cons y ys ih =>
    intro n st rl ie hI
    have hc := loop_cons y ys n st rl ie hI
    rcases hi : item y with _ | ⟨w0 | e0 | e0, t0⟩ <;> simp only [loopItems, hi] at hc ⊢
    · exact hc
    · by_cases hh : (hashReq && ie.isEmpty && !hashable w0) = true
      · rw [if_pos hh] at hc ⊢
        exact hc
      · rw [if_neg hh] at hc ⊢
        obtain ⟨st1, hs, hI1, ht1⟩ := hc
        have h := ih (n + 1) st1 _ ie hI1
        rw [hs]
        rcases hl : loopItems item hashReq ys (n + 1) ie.isEmpty with _ | r <;> simp only [hl] at h ⊢
        · exact h
        · rcases hr : r.r with _ | e <;> simp only [hr] at h ⊢
          · obtain ⟨st2, j1, j2, j3, j4⟩ := h
            refine ⟨st2, j1, by rw [j2, ht1, List.append_assoc], fun h0 => ?_, j4⟩
            have hie : ie = [] := (List.append_eq_nil_iff.mp h0).1
            subst hie
            rw [← List.singleton_append, ← List.append_assoc]
            exact j3 h0
          · rw [h, ht1, List.append_assoc]
    · obtain ⟨st1, hs, hI1, ht1⟩ := hc
      have h := ih (n + 1) st1 rl _ hI1
      rw [show (ie ++ [(n, e0)]).isEmpty = false by cases ie <;> rfl] at h
      rw [hs]
      rcases hl : loopItems item hashReq ys (n + 1) false with _ | r <;> simp only [hl] at h ⊢
      · exact h
      · rcases hr : r.r with _ | e <;> simp only [hr] at h ⊢
        · obtain ⟨st2, j1, j2, _, rl', j4⟩ := h
          exact ⟨st2, j1, by rw [j2, ht1, List.append_assoc], fun h0 => by simp at h0,
            rl', by rw [← List.singleton_append, ← List.append_assoc]; exact j4⟩
        · rw [h, ht1, List.append_assoc]
    · exact hc

/-- `val st y`: the value being processed in `st` is `y` -/
theorem procLoop_spec {σ ρ : Type} (loop : List Proc → σ → ρ) (tr : σ → List Ev) (val : σ → PyVal → Prop)
    (ok : σ → ρ) (err : Exn → List Ev → ρ) (loop_nil : ∀ st, loop [] st = ok st)
    (loop_cons : ∀ p ps st y, val st y →
      (∀ e, p.k.call y = .error e → loop (p :: ps) st = err e (tr st ++ p.ev)) ∧
      (∀ z, p.k.call y = .ok z → ∃ st', loop (p :: ps) st = loop ps st' ∧ tr st' = tr st ++ p.ev ∧ val st' z)) :
    ∀ (ps : List Proc) (st : σ) (y : PyVal), val st y →
      (∀ e t2, runProcs ps y = (.error e, t2) → loop ps st = err e (tr st ++ t2)) ∧
      (∀ z t2, runProcs ps y = (.ok z, t2) → ∃ st', loop ps st = ok st' ∧ val st' z ∧ tr st' = tr st ++ t2) := by
  intro ps
  induction ps with
  | nil =>
    intro st y hy
    refine ⟨(fun e t2 h => nomatch h), fun z t2 h => ?_⟩
    cases h
    exact ⟨st, loop_nil st, hy, (List.append_nil _).symm⟩
  | cons p ps ih =>
    intro st y hy
    obtain ⟨c1, c2⟩ := loop_cons p ps st y hy
    simp only [runProcs]
    cases hcall : p.k.call y with
    | error e0 => exact ⟨fun e t2 h => by cases h; exact c1 e0 hcall, fun z t2 h => nomatch h⟩
    | ok z0 =>
      obtain ⟨st', hstep, htr, hv⟩ := c2 z0 hcall
      obtain ⟨i1, i2⟩ := ih st' z0 hv
      rw [hstep]
      refine ⟨fun e t2 h => ?_, fun z t2 h => ?_⟩
      · obtain ⟨h1, rfl⟩ := Prod.mk.inj h
        rw [i1 e _ (Prod.ext h1 rfl), htr, List.append_assoc]
      · obtain ⟨h1, rfl⟩ := Prod.mk.inj h
        obtain ⟨st'', g1, g2, g3⟩ := i2 z _ (Prod.ext h1 rfl)
        exact ⟨st'', g1, g2, by rw [g3, htr, List.append_assoc]⟩

/-- what the result `g` of the gate on the input `x` says of a run `R` of a method from its gate stage on (`out R` is what
    the method returns, `K st'` the rest of the method from the state `st'`, `tr` the trace so far): the `Invalid` of the
    gate, or on to the rest in a state with `Q`.  Nothing is said of `.exn`, which no gate returns (`Gate.Wf`). -/
structure GateStage {ρ σ : Type} (out : ρ → Option (Out × List Ev)) (K : σ → ρ) (Q : σ → PyVal → List Ev → Prop)
    (x : PyVal) (vid : Nat) (tr : List Ev) (g : Gate) (R : ρ) : Prop where
  rej : ∀ k t, g = .rej k t → out R = some (.invalid (.mk k x vid []), tr ++ t)
  acc : ∀ y t, g = .acc y t → ∃ st', R = K st' ∧ Q st' y t

theorem GateStage.of_acc {ρ σ : Type} {out : ρ → Option (Out × List Ev)} {K : σ → ρ} {Q : σ → PyVal → List Ev → Prop}
    {x y : PyVal} {vid : Nat} {tr t : List Ev} {R : ρ} (h : ∃ st', R = K st' ∧ Q st' y t) :
    GateStage out K Q x vid tr (.acc y t) R :=
  ⟨nofun, fun _ _ h' => by cases h'; exact h⟩

theorem GateStage.of_rej {ρ σ : Type} {out : ρ → Option (Out × List Ev)} {K : σ → ρ} {Q : σ → PyVal → List Ev → Prop}
    {x : PyVal} {vid : Nat} {tr t : List Ev} {k : ErrK} {R : ρ} (h : out R = some (.invalid (.mk k x vid []), tr ++ t)) :
    GateStage out K Q x vid tr (.rej k t) R :=
  ⟨fun _ _ h' => by cases h'; exact h, nofun⟩

/-- what the result `q` of `contPreds` on the coerced value `y` says of a run `R` of a method from its predicate stage on
    (`out R` is what the method returns, `K st'` the rest of the method from the state `st'`, `tr` the trace so far): the
    exception, the `Invalid` naming the failed predicates, or on to the rest in a state with `Q` -/
structure PredsStage {ρ σ : Type} (out : ρ → Option (Out × List Ev)) (K : σ → ρ) (Q : σ → List Ev → Prop)
    (y : PyVal) (vid : Nat) (tr : List Ev) (q : List Nat × List Ev × Option Exn) (R : ρ) : Prop where
  raised : ∀ f t e, q = (f, t, some e) → out R = some (.raised e, tr ++ t)
  invalid : ∀ f t, q = (f, t, none) → f ≠ [] → out R = some (.invalid (.mk (.preds f) y vid []), tr ++ t)
  pass : ∀ t, q = ([], t, none) → ∃ st', R = K st' ∧ Q st' t

section
variable {ρ σ : Type} {out : ρ → Option (Out × List Ev)} {K : σ → ρ} {Q : σ → List Ev → Prop}
  {y : PyVal} {vid : Nat} {tr : List Ev} {R : ρ}

theorem PredsStage.of_raised {fs : List Nat} {t0 : List Ev} {e0 : Exn} (hR : out R = some (.raised e0, tr ++ t0)) :
    PredsStage out K Q y vid tr (fs, t0, some e0) R := by
  refine ⟨fun f t e h => ?_, fun f t h => by simp at h, fun t h => by simp at h⟩
  simp only [Prod.mk.injEq, Option.some.injEq] at h
  obtain ⟨_, rfl, rfl⟩ := h
  exact hR

/-- the run has collected the failed predicates `qs` and tests whether there are any: if so it returns the `Invalid` that
    names them, if not it goes on from `st` -/
theorem PredsStage.of_checked {fs : List Nat} (qs : List Pred) (t0 : List Ev) (st : σ)
    (hfs : fs = qs.map (·.pid)) (hnil : qs = [] → R = K st)
    (hbad : qs ≠ [] → out R = some (.invalid (.mk (.preds (qs.map (·.pid))) y vid []), tr ++ t0)) (hQ : Q st t0) :
    PredsStage out K Q y vid tr (fs, t0, none) R := by
  subst hfs
  refine ⟨fun f t e h => by simp at h, fun f t h hne => ?_, fun t h => ?_⟩ <;> simp only [Prod.mk.injEq] at h
  · obtain ⟨rfl, rfl, _⟩ := h
    exact hbad fun hq => hne (by rw [hq]; rfl)
  · obtain ⟨hf, rfl, _⟩ := h
    exact ⟨st, hnil (List.map_eq_nil_iff.1 hf), hQ⟩

end

/-- a method whose gate stage, predicate stage and tail do what the three parts of the model's container level say computes what
    the container level `p` decides: `.inl r`, or the tail's result on the elements.  (`cv st y`: the state holds the coerced value
    `y`; `T y (items y) t`: what the tail returns from a state with trace `t`.) -/
theorem ContPre.method {α ρ σ : Type} {out : ρ → Option (Out × List Ev)} {K1 K2 : σ → ρ} {cv : σ → PyVal → Prop}
    {trOf : σ → List Ev} {gateTy destTy : Ty} {items : PyVal → Option α} {exn : Exn} {o : Oracle} {m : Mode} {vid : Nat}
    {ps aps : List Pred} {c : Option CoerceK} {x : PyVal} {p : (Out × List Ev) ⊕ (PyVal × α × List Ev)} {R : ρ}
    {T : PyVal → Option α → List Ev → Option (Out × List Ev)}
    (hp : ContPre gateTy destTy items exn o m vid ps aps c x p) (hm : ¬ (m = .sync ∧ aps ≠ []))
    (hgate : GateStage out K1 (fun st y t => cv st y ∧ trOf st = t) x vid [] (gate o gateTy destTy c x) R)
    (hstage : ∀ st y, cv st y →
      PredsStage out K2 (fun st' t => cv st' y ∧ trOf st' = trOf st ++ t) y vid (trOf st) (contPreds m ps aps y) (K1 st))
    (hT : ∀ y t, T y none t = some (.raised exn, t))
    (htail : ∀ st y, cv st y → out (K2 st) = T y (items y) (trOf st)) :
    (∀ r, p = .inl r → out R = some r) ∧ (∀ y xs t, p = .inr (y, xs, t) → out R = T y (some xs) t) := by
  cases hp with
  | guard h1 h2 => exact absurd ⟨h1, h2⟩ hm
  | rej _ hg => exact ⟨fun r h => by cases h; exact hgate.rej _ _ hg, nofun⟩
  | predExn _ hg hc =>
    obtain ⟨st, h1, h2, rfl⟩ := hgate.acc _ _ hg
    exact ⟨fun r h => by cases h; rw [h1]; exact (hstage st _ h2).raised _ _ _ hc, nofun⟩
  | predFail _ hg hc =>
    obtain ⟨st, h1, h2, rfl⟩ := hgate.acc _ _ hg
    exact ⟨fun r h => by cases h; rw [h1]; exact (hstage st _ h2).invalid _ _ hc (List.cons_ne_nil _ _), nofun⟩
  | noItems _ hg hc hi =>
    obtain ⟨st, h1, h2, rfl⟩ := hgate.acc _ _ hg
    obtain ⟨st', q1, q2, q3⟩ := (hstage st _ h2).pass _ hc
    exact ⟨fun r h => by cases h; rw [h1, q1, htail st' _ q2, hi, hT, q3], nofun⟩
  | pass _ hg hc hi =>
    obtain ⟨st, h1, h2, rfl⟩ := hgate.acc _ _ hg
    obtain ⟨st', q1, q2, q3⟩ := (hstage st _ h2).pass _ hc
    exact ⟨nofun, fun y xs t h => by cases h; rw [h1, q1, htail st' _ q2, hi, q3]⟩

end Koda
