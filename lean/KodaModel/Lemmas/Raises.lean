/-
  Where exceptions come from.  A container step raises `e` only if its own container level did, a child did, or
  (sets, map keys) a payload could not be hashed; a scalar or equality step only if a preprocessor, a predicate or the
  comparison did; the `None` and `is dict` steps never.  "Never raises" (C01) and "never raises AssertionError" (C06)
  are both read off these.
-/
import KodaModel.Lemmas.Loops

namespace Koda

theorem ContPre.raised {α gateTy destTy} {items : PyVal → Option α} {exn o m vid ps aps c x e t}
    (h : ContPre gateTy destTy items exn o m vid ps aps c x (.inl (.raised e, t))) :
    (e = .assertion ∧ m = .sync ∧ aps ≠ []) ∨
      ∃ y t0, gate o gateTy destTy c x = .acc y t0 ∧
        ((contPreds m ps aps y).2.2 = some e ∨ (e = exn ∧ items y = none)) := by
  cases h with
  | guard h1 h2 => exact .inl ⟨rfl, h1, h2⟩
  | predExn _ hg hp => exact .inr ⟨_, _, hg, .inl (by rw [hp])⟩
  | noItems _ hg _ hi => exact .inr ⟨_, _, hg, .inr ⟨rfl, hi⟩⟩

theorem NtuplePre.raised {o vid c lp n x e t} (h : NtuplePre o vid c lp n x (.inl (.raised e, t))) :
    e = .typeError ∧ ∃ y, gate o .tuple .list c x = .acc y t ∧ (pyLen y = none ∨ pyIter y = none) := by
  cases h with
  | noLen hg hl => exact ⟨rfl, _, hg, .inl hl⟩
  | noItems hg _ hi => exact ⟨rfl, _, hg, .inr hi⟩

theorem RecPre.raised {o m vid cfg x e t}
    (h : RecPre o m vid cfg x (.inl (.raised e, t))) :
    (e = .assertion ∧ m = .sync ∧ cfg.aoc.isSome = true) ∨ e = .typeError := by
  cases h with
  | guard h1 h2 => exact .inl ⟨rfl, h1, h2⟩
  | noItems => exact .inr rfl

theorem seqStep_raised {k o m vid ps aps c ev x e t} (h : seqStep k o m vid ps aps c ev x = some (.raised e, t)) :
    seqPre k o m vid ps aps c x = .inl (.raised e, t) ∨ (∃ y t', ev y = some (.raised e, t')) ∨
      (e = .typeError ∧ k = .set ∧ ∃ y w t', ev y = some (.valid w, t') ∧ hashable w = false) := by
  rcases seqStep_some.1 h with hp | ⟨y, xs, t0, l, _, hl, hf⟩
  · exact .inl hp
  · rcases hl.sources.1 e (finishSeq_raised.1 (Prod.mk.inj hf).1.symm) with h1 | ⟨h1, h2, h3⟩
    · exact .inr (.inl h1)
    · exact .inr (.inr ⟨h1, by simpa using h2, h3⟩)

theorem ntupleStep_raised {o vid oc c lp evs x e t} (h : ntupleStep o vid oc c lp evs x = some (.raised e, t)) :
    ntuplePre o vid c lp evs.length x = .inl (.raised e, t) ∨ ∃ ev ∈ evs, ∃ y t', ev y = some (.raised e, t') := by
  rcases ntupleStep_some.1 h with hp | ⟨y, xs, t0, l, _, hl, hf⟩
  · exact .inl hp
  · exact .inr (hl.sources.1 e (ntupleFinish_raised.1 (congrArg Prod.fst hf).symm))

theorem mapStep_raised {o m vid ps aps c evk evv x e t}
    (h : mapStep o m vid ps aps c evk evv x = some (.raised e, t)) :
    mapPre o m vid ps aps c x = .inl (.raised e, t) ∨
      (∃ y t', evk y = some (.raised e, t') ∨ evv y = some (.raised e, t')) ∨
      (e = .typeError ∧ ∃ y w t', evk y = some (.valid w, t') ∧ hashable w = false) := by
  rcases mapStep_some.1 h with hp | ⟨y, kvs, t0, l, _, hl, hf⟩
  · exact .inl hp
  · exact .inr (hl.sources.1 e (mapFinish_raised.1 (congrArg Prod.fst hf).symm))

theorem recordStep_raised {o m vid cfg evs x e t} (h : recordStep o m vid cfg evs x = some (.raised e, t)) :
    recPre o m vid cfg x = .inl (.raised e, t) ∨ ∃ ev ∈ evs, ∃ y t', ev y = some (.raised e, t') := by
  rcases recordStep_some.1 h with hp | ⟨y, data, t0, l, _, hl, hf⟩
  · exact .inl hp
  · exact .inr (hl.sources.1 e (recFinish_raised.1 (congrArg Prod.fst hf).symm))

theorem unionStep_raised {vid evs x e t}
    (h : unionStep vid evs x = some (.raised e, t)) : ∃ ev ∈ evs, ∃ t', ev x = some (.raised e, t') := by
  obtain ⟨⟨w, es, t', r⟩, hl, hf⟩ := unionStep_some.1 h
  refine hl.sources.1 e ?_
  cases r with
  | some e' => cases hf; rfl
  | none => cases w <;> cases hf

theorem maybeStep_raised {vid ev x e t}
    (h : maybeStep vid ev x = some (.raised e, t)) : ∃ v, ev v = some (.raised e, t) := by
  rcases maybeStep_cases x with ⟨oid, v, rfl⟩ | hx | hx
  · rw [maybeStep_just] at h
    obtain ⟨⟨out, t0⟩, hv, hf⟩ := Option.map_eq_some_iff.1 h
    cases out <;> cases hf
    exact ⟨v, hv⟩
  · rw [hx] at h; cases h
  · rw [hx] at h; cases h

theorem knrStep_raised {ev x e t} (h : knrStep ev x = some (.raised e, t)) :
    ev x = some (.raised e, t) := by
  rw [knrStep_eq] at h
  obtain ⟨⟨out, t0⟩, hv, hf⟩ := Option.map_eq_some_iff.1 h
  cases out <;> cases hf
  exact hv

theorem userStep_raised {vid m ev x e t}
    (h : userStep vid m ev x = some (.raised e, t)) : ∃ t', ev x = some (.raised e, t') := by
  rw [userStep_eq] at h
  obtain ⟨⟨out, t0⟩, hv, hf⟩ := Option.map_eq_some_iff.1 h
  cases hf
  exact ⟨t0, hv⟩

theorem finishPreds_raised {vid z t q e} (h : (finishPreds vid z t q).1 = .raised e) : q.2.2 = some e := by
  revert h
  fun_cases finishPreds vid z t q <;> intro h <;> cases h
  assumption

theorem scalarStep_raised {o m vid tg c pre ps aps x e} (h : (scalarStep o m vid tg c pre ps aps x).1 = .raised e) :
    (e = .assertion ∧ m = .sync ∧ aps ≠ []) ∨
      ∃ y t, gate o tg tg c x = .acc y t ∧
        ((runProcs pre y).1 = .error e ∨ ∃ z, (runProcs pre y).1 = .ok z ∧ (contPreds m ps aps z).2.2 = some e) := by
  revert h
  fun_cases scalarStep o m vid tg c pre ps aps x <;> intro h
  case case1 hg => cases h; exact .inl ⟨rfl, hg⟩
  case case2 e' t hg => exact absurd hg ((gate_wf ..).ne_exn e' t)
  case case3 => cases h
  case case4 y t hg e' t2 hp => cases h; exact .inr ⟨y, t, hg, .inl (by rw [hp])⟩
  case case5 y t hg z t2 hp => exact .inr ⟨y, t, hg, .inr ⟨z, by rw [hp], finishPreds_raised h⟩⟩

theorem equalsStep_raised {vid mt pre pid x e} (h : (equalsStep vid mt pre pid x).1 = .raised e) :
    (runProcs pre x).1 = .error e ∨ ∃ z, (runProcs pre x).1 = .ok z ∧ pyEqX z mt = .error e := by
  revert h
  fun_cases equalsStep vid mt pre pid x <;> intro h <;> cases h
  case case1 hp => exact .inl (by rw [hp])
  case case2 z _ hp he => exact .inr ⟨z, by rw [hp], he⟩

theorem noneStep_clean (o : Oracle) (vid : Nat) (c : Option CoerceK) (x : PyVal) (e : Exn) :
    (noneStep o vid c x).1 ≠ .raised e := by
  fun_cases noneStep o vid c x
  case case3 c e' t hg => exact absurd hg ((applyCoerce_wf ..).ne_exn e' t)
  all_goals exact Out.noConfusion

theorem isDictStep_clean (vid : Nat) (x : PyVal) (e : Exn) : (isDictStep vid x).1 ≠ .raised e := by
  fun_cases isDictStep vid x <;> exact Out.noConfusion

end Koda
