/-
  The five loops as big-step relations, one constructor per productive branch of the definition
  (running out of fuel, `none`, has no constructor); `.of_loop` and `.loop` pass between `loop … = some r`
  and the graph.  Proofs about a loop are inductions on its graph; two are here: `.sources` (where the exception and
  the errors of the result come from) and `.total` (defined children give a defined result).
  Then the steps: a container step is its container level, its loop and its finish function
  (`*Step_some`); a wrapper step maps the child's result (`knrStep_eq`, `userStep_eq`, `maybeStep_just`).
-/
import KodaModel.Lemmas.Pre

namespace Koda

inductive Items (ev : Ev1) (hr : Bool) : List PyVal → Nat → Bool → LoopR → Prop
  | nil (i ne) : Items ev hr [] i ne ⟨[], [], [], none⟩
  | raised {x xs i ne e t} : ev x = some (.raised e, t) → Items ev hr (x :: xs) i ne ⟨[], [], t, some e⟩
  | unhashable {x xs i ne w t} : ev x = some (.valid w, t) → (hr && ne && !hashable w) = true →
      Items ev hr (x :: xs) i ne ⟨[], [], t, some .typeError⟩
  | valid {x xs i ne w t r} : ev x = some (.valid w, t) → ¬ (hr && ne && !hashable w) = true →
      Items ev hr xs (i + 1) ne r → Items ev hr (x :: xs) i ne ⟨w :: r.ws, r.es, t ++ r.t, r.r⟩
  | invalid {x xs i ne e t r} : ev x = some (.invalid e, t) → Items ev hr xs (i + 1) false r →
      Items ev hr (x :: xs) i ne ⟨r.ws, (i, e) :: r.es, t ++ r.t, r.r⟩

namespace Items

theorem of_loop {ev hr xs i ne r} (h : loopItems ev hr xs i ne = some r) :
    Items ev hr xs i ne r := by
  fun_induction loopItems ev hr xs i ne generalizing r with
  | case1 i ne => cases h; exact .nil i ne
  | case2 | case5 | case7 => cases h
  | case3 x xs i ne e t hx => cases h; exact .raised hx
  | case4 x xs i ne w t hx hc => cases h; exact .unhashable hx hc
  | case6 x xs i ne w t hx hc r' hl ih => cases h; exact .valid hx hc (ih hl)
  | case8 x xs i ne e t hx r' hl ih => cases h; exact .invalid hx (ih hl)

theorem loop {ev hr xs i ne r} (h : Items ev hr xs i ne r) :
    loopItems ev hr xs i ne = some r := by
  induction h <;> simp [loopItems, *]

theorem sources {ev hr xs i ne r} (hi : Items ev hr xs i ne r) :
    (∀ e, r.r = some e → (∃ x t, ev x = some (.raised e, t)) ∨
      (e = .typeError ∧ hr = true ∧ ∃ x w t, ev x = some (.valid w, t) ∧ hashable w = false)) ∧
    ∀ p ∈ r.es, ∃ x t, ev x = some (.invalid p.2, t) := by
  induction hi with
  | nil => exact ⟨nofun, nofun⟩
  | raised hx => exact ⟨fun _ h => by cases h; exact .inl ⟨_, _, hx⟩, nofun⟩
  | unhashable hx hc =>
    simp only [Bool.and_eq_true, Bool.not_eq_true'] at hc
    exact ⟨fun _ h => by cases h; exact .inr ⟨rfl, hc.1.1, _, _, _, hx, hc.2⟩, nofun⟩
  | valid _ _ _ ih => exact ih
  | invalid hx _ ih =>
    refine ⟨ih.1, fun p hp => ?_⟩
    rcases List.mem_cons.1 hp with rfl | hp
    · exact ⟨_, _, hx⟩
    · exact ih.2 p hp

theorem total {ev hr xs} (h : ∀ x ∈ xs, ∃ p, ev x = some p) (i ne) : ∃ r, Items ev hr xs i ne r := by
  suffices ∃ r, loopItems ev hr xs i ne = some r from this.imp fun _ => of_loop
  fun_induction loopItems ev hr xs i ne with
  | case2 x xs i ne hx => obtain ⟨p, hp⟩ := h x List.mem_cons_self; rw [hx] at hp; cases hp
  | case5 x xs i ne w t _ _ hl ih | case7 x xs i ne w t _ hl ih =>
    obtain ⟨r, hr⟩ := ih fun z hz => h z (List.mem_cons_of_mem _ hz); rw [hl] at hr; cases hr
  | _ => exact ⟨_, rfl⟩

end Items

inductive Fields : List Ev1 → List PyVal → Nat → LoopR → Prop
  | done {evs xs} (i) : evs = [] ∨ xs = [] → Fields evs xs i ⟨[], [], [], none⟩
  | raised {ev evs x xs i e t} : ev x = some (.raised e, t) → Fields (ev :: evs) (x :: xs) i ⟨[], [], t, some e⟩
  | valid {ev evs x xs i w t r} : ev x = some (.valid w, t) → Fields evs xs (i + 1) r →
      Fields (ev :: evs) (x :: xs) i ⟨w :: r.ws, r.es, t ++ r.t, r.r⟩
  | invalid {ev evs x xs i e t r} : ev x = some (.invalid e, t) → Fields evs xs (i + 1) r →
      Fields (ev :: evs) (x :: xs) i ⟨r.ws, (i, e) :: r.es, t ++ r.t, r.r⟩

namespace Fields

theorem of_loop {evs xs i r} (h : loopFields evs xs i = some r) : Fields evs xs i r := by
  fun_induction loopFields evs xs i generalizing r with
  | case1 | case3 | case5 => cases h
  | case2 ev evs x xs i e t hx => cases h; exact .raised hx
  | case4 ev evs x xs i w t hx r' hl ih => cases h; exact .valid hx (ih hl)
  | case6 ev evs x xs i e t hx r' hl ih => cases h; exact .invalid hx (ih hl)
  | case7 evs xs i hne =>
    cases h
    refine .done i ?_
    cases evs with
    | nil => exact .inl rfl
    | cons ev evs =>
      cases xs with
      | nil => exact .inr rfl
      | cons x xs => exact absurd rfl (hne _ _ _ _ rfl)

theorem loop {evs xs i r} (h : Fields evs xs i r) : loopFields evs xs i = some r := by
  induction h with
  | done i h => exact loopFields.eq_2 _ _ _ (by rintro _ _ _ _ rfl rfl; cases h <;> contradiction)
  | _ => simp [loopFields, *]

theorem sources {evs xs i r} (hf : Fields evs xs i r) :
    (∀ e, r.r = some e → ∃ ev ∈ evs, ∃ x t, ev x = some (.raised e, t)) ∧
    ∀ p ∈ r.es, ∃ ev ∈ evs, ∃ x t, ev x = some (.invalid p.2, t) := by
  induction hf with
  | done => exact ⟨nofun, nofun⟩
  | raised hx => exact ⟨fun _ h => by cases h; exact ⟨_, List.mem_cons_self, _, _, hx⟩, nofun⟩
  | valid _ _ ih =>
    exact ⟨fun e he => (ih.1 e he).imp fun _ h => ⟨List.mem_cons_of_mem _ h.1, h.2⟩,
      fun p hp => (ih.2 p hp).imp fun _ h => ⟨List.mem_cons_of_mem _ h.1, h.2⟩⟩
  | invalid hx _ ih =>
    refine ⟨fun e he => (ih.1 e he).imp fun _ h => ⟨List.mem_cons_of_mem _ h.1, h.2⟩, fun p hp => ?_⟩
    rcases List.mem_cons.1 hp with rfl | hp
    · exact ⟨_, List.mem_cons_self, _, _, hx⟩
    · exact (ih.2 p hp).imp fun _ h => ⟨List.mem_cons_of_mem _ h.1, h.2⟩

theorem total {evs xs} (h : ∀ ev ∈ evs, ∀ x ∈ xs, ∃ p, ev x = some p) (i) : ∃ r, Fields evs xs i r := by
  suffices ∃ r, loopFields evs xs i = some r from this.imp fun _ => of_loop
  fun_induction loopFields evs xs i with
  | case1 ev evs x xs i hx => obtain ⟨p, hp⟩ := h ev List.mem_cons_self x List.mem_cons_self; rw [hx] at hp; cases hp
  | case3 ev evs x xs i w t _ hl ih | case5 ev evs x xs i w t _ hl ih =>
    obtain ⟨r, hr⟩ := ih fun e he z hz => h e (List.mem_cons_of_mem _ he) z (List.mem_cons_of_mem _ hz)
    rw [hl] at hr; cases hr
  | _ => exact ⟨_, rfl⟩

end Fields

inductive UnionL (x : PyVal) : List Ev1 → Option PyVal × List Inv × List Ev × Option Exn → Prop
  | nil : UnionL x [] (none, [], [], none)
  | raised {ev evs e t} : ev x = some (.raised e, t) → UnionL x (ev :: evs) (none, [], t, some e)
  | valid {ev evs w t} : ev x = some (.valid w, t) → UnionL x (ev :: evs) (some w, [], t, none)
  | invalid {ev evs e t w es t' r} : ev x = some (.invalid e, t) → UnionL x evs (w, es, t', r) →
      UnionL x (ev :: evs) (w, e :: es, t ++ t', r)

namespace UnionL

theorem of_loop {x evs r} (h : unionLoop x evs = some r) : UnionL x evs r := by
  fun_induction unionLoop x evs generalizing r with
  | case1 => cases h; exact .nil
  | case2 | case5 => cases h
  | case3 ev evs e t hx => cases h; exact .raised hx
  | case4 ev evs w t hx => cases h; exact .valid hx
  | case6 ev evs e t hx w es t' r' hl ih => cases h; exact .invalid hx (ih hl)

theorem loop {x evs r} (h : UnionL x evs r) : unionLoop x evs = some r := by
  induction h <;> simp [unionLoop, *]

theorem sources {x evs w es t r} (h : UnionL x evs (w, es, t, r)) :
    (∀ e, r = some e → ∃ ev ∈ evs, ∃ t', ev x = some (.raised e, t')) ∧
    ∀ c ∈ es, ∃ ev ∈ evs, ∃ t', ev x = some (.invalid c, t') := by
  generalize hq : (w, es, t, r) = q at h
  induction h generalizing w es t r with
  | nil => cases hq; exact ⟨nofun, nofun⟩
  | raised hx => cases hq; exact ⟨fun _ h => by cases h; exact ⟨_, List.mem_cons_self, _, hx⟩, nofun⟩
  | valid hx => cases hq; exact ⟨nofun, nofun⟩
  | invalid hx _ ih =>
    cases hq
    have ih := ih rfl
    refine ⟨fun e he => (ih.1 e he).imp fun _ h => ⟨List.mem_cons_of_mem _ h.1, h.2⟩, fun c hc => ?_⟩
    rcases List.mem_cons.1 hc with rfl | hc
    · exact ⟨_, List.mem_cons_self, _, hx⟩
    · exact (ih.2 c hc).imp fun _ h => ⟨List.mem_cons_of_mem _ h.1, h.2⟩

theorem total {x evs} (h : ∀ ev ∈ evs, ∃ p, ev x = some p) : ∃ r, UnionL x evs r := by
  suffices ∃ r, unionLoop x evs = some r from this.imp fun _ => of_loop
  fun_induction unionLoop x evs with
  | case2 ev evs hx => obtain ⟨p, hp⟩ := h ev List.mem_cons_self; rw [hx] at hp; cases hp
  | case5 ev evs e t _ hl ih =>
    obtain ⟨r, hr⟩ := ih fun e he => h e (List.mem_cons_of_mem _ he); rw [hl] at hr; cases hr
  | _ => exact ⟨_, rfl⟩

end UnionL

inductive MapL (evk evv : Ev1) : List (PyVal × PyVal) → List (PyVal × PyVal) → MapR → Prop
  | nil (acc) : MapL evk evv [] acc ⟨acc, [], [], [], [], none⟩
  | keyRaised {k v rest acc e t} : evk k = some (.raised e, t) →
      MapL evk evv ((k, v) :: rest) acc ⟨acc, [], [], [], t, some e⟩
  | valRaised {k v rest acc ko tk e t} : evk k = some (ko, tk) → (∀ e, ko ≠ .raised e) →
      evv v = some (.raised e, t) → MapL evk evv ((k, v) :: rest) acc ⟨acc, [], [], [], tk ++ t, some e⟩
  | unhashable {k v rest acc kw tk vw tv} : evk k = some (.valid kw, tk) → evv v = some (.valid vw, tv) →
      hashable kw = false → MapL evk evv ((k, v) :: rest) acc ⟨acc, [], [], [], tk ++ tv, some .typeError⟩
  | stored {k v rest acc kw tk vw tv r} : evk k = some (.valid kw, tk) → evv v = some (.valid vw, tv) →
      hashable kw = true → MapL evk evv rest (dictSet acc kw vw) r →
      MapL evk evv ((k, v) :: rest) acc { r with t := tk ++ tv ++ r.t }
  | keyFailed {k v rest acc ke tk vw tv r} : evk k = some (.invalid ke, tk) → evv v = some (.valid vw, tv) →
      MapL evk evv rest acc r →
      MapL evk evv ((k, v) :: rest) acc
        { r with ks := k :: r.ks, shape := (true, false) :: r.shape, errs := ke :: r.errs, t := tk ++ tv ++ r.t }
  | valFailed {k v rest acc kw tk ve tv r} : evk k = some (.valid kw, tk) → evv v = some (.invalid ve, tv) →
      MapL evk evv rest acc r →
      MapL evk evv ((k, v) :: rest) acc
        { r with ks := k :: r.ks, shape := (false, true) :: r.shape, errs := ve :: r.errs, t := tk ++ tv ++ r.t }
  | bothFailed {k v rest acc ke tk ve tv r} : evk k = some (.invalid ke, tk) → evv v = some (.invalid ve, tv) →
      MapL evk evv rest acc r →
      MapL evk evv ((k, v) :: rest) acc
        { r with ks := k :: r.ks, shape := (true, true) :: r.shape, errs := ke :: ve :: r.errs,
                 t := tk ++ tv ++ r.t }

namespace MapL

theorem of_loop {evk evv kvs acc r} (h : mapLoop evk evv kvs acc = some r) :
    MapL evk evv kvs acc r := by
  fun_induction mapLoop evk evv kvs acc generalizing r with
  | case1 acc => cases h; exact .nil acc
  | case2 | case4 | case7 => cases h
  | case3 k v rest acc e t hk => cases h; exact .keyRaised hk
  | case5 k v rest acc ko tk hko hk e t hv => cases h; exact .valRaised hk (fun e he => hko e he) hv
  | case6 k v rest acc tk tv kw vw hh _ hk _ hv => cases h; exact .unhashable hk hv (by simpa using hh)
  | case8 k v rest acc tk tv kw vw hh r' hl _ hk _ hv ih =>
    cases h; exact .stored hk hv (by simpa using hh) (ih hl)
  | case9 k v rest acc ko tk hko hk vo tv hvo hv hl hkv ih => simp only [hl] at h; cases h
  | case10 k v rest acc ko tk hko hk vo tv hvo hv r' hl hkv ih =>
    simp only [hl] at h
    cases h
    cases ko with
    | raised e => exact absurd rfl (hko e)
    | valid kw =>
      cases vo with
      | raised e => exact absurd rfl (hvo e)
      | valid vw => exact absurd rfl (hkv kw vw rfl)
      | invalid ve => exact .valFailed hk hv (ih hl)
    | invalid ke =>
      cases vo with
      | raised e => exact absurd rfl (hvo e)
      | valid vw => exact .keyFailed hk hv (ih hl)
      | invalid ve => exact .bothFailed hk hv (ih hl)

theorem loop {evk evv kvs acc r} (h : MapL evk evv kvs acc r) : mapLoop evk evv kvs acc = some r := by
  induction h <;> simp [mapLoop, *]

theorem sources {evk evv kvs acc r} (h : MapL evk evv kvs acc r) :
    (∀ e, r.r = some e → (∃ y t, evk y = some (.raised e, t) ∨ evv y = some (.raised e, t)) ∨
      (e = .typeError ∧ ∃ y w t, evk y = some (.valid w, t) ∧ hashable w = false)) ∧
    ∀ c ∈ r.errs, ∃ y t, evk y = some (.invalid c, t) ∨ evv y = some (.invalid c, t) := by
  induction h with
  | nil => exact ⟨nofun, nofun⟩
  | keyRaised hk => exact ⟨fun _ h => by cases h; exact .inl ⟨_, _, .inl hk⟩, nofun⟩
  | valRaised _ _ hv => exact ⟨fun _ h => by cases h; exact .inl ⟨_, _, .inr hv⟩, nofun⟩
  | unhashable hk _ hh => exact ⟨fun _ h => by cases h; exact .inr ⟨rfl, _, _, _, hk, hh⟩, nofun⟩
  | stored _ _ _ _ ih => exact ih
  | keyFailed hk _ _ ih =>
    refine ⟨ih.1, fun c hc => ?_⟩
    rcases List.mem_cons.1 hc with rfl | hc
    · exact ⟨_, _, .inl hk⟩
    · exact ih.2 c hc
  | valFailed _ hv _ ih =>
    refine ⟨ih.1, fun c hc => ?_⟩
    rcases List.mem_cons.1 hc with rfl | hc
    · exact ⟨_, _, .inr hv⟩
    · exact ih.2 c hc
  | bothFailed hk hv _ ih =>
    refine ⟨ih.1, fun c hc => ?_⟩
    rcases List.mem_cons.1 hc with rfl | hc
    · exact ⟨_, _, .inl hk⟩
    · rcases List.mem_cons.1 hc with rfl | hc
      · exact ⟨_, _, .inr hv⟩
      · exact ih.2 c hc

theorem total {evk evv kvs} (h : ∀ p ∈ kvs, (∃ r, evk p.1 = some r) ∧ (∃ r, evv p.2 = some r)) (acc) :
    ∃ r, MapL evk evv kvs acc r := by
  suffices ∃ r, mapLoop evk evv kvs acc = some r from this.imp fun _ => of_loop
  fun_induction mapLoop evk evv kvs acc with
  | case2 k v rest acc hk => obtain ⟨p, hp⟩ := (h _ List.mem_cons_self).1; rw [hk] at hp; cases hp
  | case4 k v rest acc _ _ _ _ hv => obtain ⟨p, hp⟩ := (h _ List.mem_cons_self).2; rw [hv] at hp; cases hp
  | case7 k v rest acc _ _ _ _ _ hl _ _ _ _ ih | case9 k v rest acc _ _ _ _ _ _ _ _ hl _ ih =>
    obtain ⟨r, hr⟩ := ih fun z hz => h z (List.mem_cons_of_mem _ hz); rw [hl] at hr; cases hr
  | case10 k v rest acc _ _ _ _ _ _ _ _ _ hl => simp only [hl]; exact ⟨_, rfl⟩
  | _ => exact ⟨_, rfl⟩

end MapL

inductive RecL (vid : Nat) (dv : PyVal) (data : List (PyVal × PyVal)) :
    List Ev1 → List PyVal → List Bool → RecR → Prop
  | done {evs ks reqs} : evs = [] ∨ ks = [] ∨ reqs = [] → RecL vid dv data evs ks reqs ⟨[], [], [], [], none⟩
  | missing {ev evs k ks reqs r} : dictGet data k = none → RecL vid dv data evs ks reqs r →
      RecL vid dv data (ev :: evs) (k :: ks) (true :: reqs)
        { r with got := none :: r.got, ks := k :: r.ks, errs := .mk .missingKey dv vid [] :: r.errs }
  | absent {ev evs k ks reqs r} : dictGet data k = none → RecL vid dv data evs ks reqs r →
      RecL vid dv data (ev :: evs) (k :: ks) (false :: reqs) { r with got := none :: r.got }
  | raised {ev evs k ks req reqs xv e t} : dictGet data k = some xv → ev xv = some (.raised e, t) →
      RecL vid dv data (ev :: evs) (k :: ks) (req :: reqs) ⟨[], [], [], t, some e⟩
  | valid {ev evs k ks req reqs xv w t r} : dictGet data k = some xv → ev xv = some (.valid w, t) →
      RecL vid dv data evs ks reqs r →
      RecL vid dv data (ev :: evs) (k :: ks) (req :: reqs) { r with got := some w :: r.got, t := t ++ r.t }
  | invalid {ev evs k ks req reqs xv e t r} : dictGet data k = some xv → ev xv = some (.invalid e, t) →
      RecL vid dv data evs ks reqs r →
      RecL vid dv data (ev :: evs) (k :: ks) (req :: reqs)
        { r with got := none :: r.got, ks := k :: r.ks, errs := e :: r.errs, t := t ++ r.t }

namespace RecL

theorem of_loop {vid dv data evs ks reqs r}
    (h : recLoop vid dv data evs ks reqs = some r) : RecL vid dv data evs ks reqs r := by
  fun_induction recLoop vid dv data evs ks reqs generalizing r with
  | case1 | case4 | case6 | case8 => cases h
  | case2 ev evs k ks reqs hd r' hl ih => cases h; exact .missing hd (ih hl)
  | case3 ev evs k ks req reqs hd r' hl hreq ih =>
    cases h
    obtain rfl : req = false := by simpa using hreq
    exact .absent hd (ih hl)
  | case5 ev evs k ks req reqs xv hd e t hx => cases h; exact .raised hd hx
  | case7 ev evs k ks req reqs xv hd w t hx r' hl ih => cases h; exact .valid hd hx (ih hl)
  | case9 ev evs k ks req reqs xv hd e t hx r' hl ih => cases h; exact .invalid hd hx (ih hl)
  | case10 evs ks reqs hne =>
    cases h
    refine .done ?_
    cases evs with
    | nil => exact .inl rfl
    | cons ev evs =>
      cases ks with
      | nil => exact .inr (.inl rfl)
      | cons k ks =>
        cases reqs with
        | nil => exact .inr (.inr rfl)
        | cons req reqs => exact absurd rfl (hne _ _ _ _ _ _ rfl rfl)

theorem loop {vid dv data evs ks reqs r}
    (h : RecL vid dv data evs ks reqs r) : recLoop vid dv data evs ks reqs = some r := by
  induction h with
  | done h =>
    exact recLoop.eq_2 _ _ _ _ _ _ (by rintro _ _ _ _ _ _ rfl rfl rfl; rcases h with h | h | h <;> contradiction)
  | _ => simp [recLoop, *]

theorem sources {vid dv data evs ks reqs r}
    (h : RecL vid dv data evs ks reqs r) :
    (∀ e, r.r = some e → ∃ ev ∈ evs, ∃ y t, ev y = some (.raised e, t)) ∧
    ∀ c ∈ r.errs, (∃ ev ∈ evs, ∃ y t, ev y = some (.invalid c, t)) ∨ c = .mk .missingKey dv vid [] := by
  have lift : ∀ {ev : Ev1} {evs : List Ev1} {P : Ev1 → Prop}, (∃ ev' ∈ evs, P ev') → ∃ ev' ∈ ev :: evs, P ev' :=
    fun h => h.imp fun _ h => ⟨List.mem_cons_of_mem _ h.1, h.2⟩
  induction h with
  | done => exact ⟨nofun, nofun⟩
  | missing _ _ ih =>
    refine ⟨fun e he => lift (ih.1 e he), fun c hc => ?_⟩
    rcases List.mem_cons.1 hc with rfl | hc
    · exact .inr rfl
    · exact (ih.2 c hc).imp_left lift
  | absent _ _ ih => exact ⟨fun e he => lift (ih.1 e he), fun c hc => (ih.2 c hc).imp_left lift⟩
  | raised _ hx => exact ⟨fun _ h => by cases h; exact ⟨_, List.mem_cons_self, _, _, hx⟩, nofun⟩
  | valid _ _ _ ih => exact ⟨fun e he => lift (ih.1 e he), fun c hc => (ih.2 c hc).imp_left lift⟩
  | invalid _ hx _ ih =>
    refine ⟨fun e he => lift (ih.1 e he), fun c hc => ?_⟩
    rcases List.mem_cons.1 hc with rfl | hc
    · exact .inl ⟨_, List.mem_cons_self, _, _, hx⟩
    · exact (ih.2 c hc).imp_left lift

theorem total {vid dv data evs} (h : ∀ ev ∈ evs, ∀ k xv, dictGet data k = some xv → ∃ p, ev xv = some p)
    (ks reqs) : ∃ r, RecL vid dv data evs ks reqs r := by
  suffices ∃ r, recLoop vid dv data evs ks reqs = some r from this.imp fun _ => of_loop
  fun_induction recLoop vid dv data evs ks reqs with
  | case4 ev evs k ks req reqs xv hd hx => obtain ⟨p, hp⟩ := h ev List.mem_cons_self k xv hd; rw [hx] at hp; cases hp
  | case1 ev evs k ks req reqs _ hl ih | case6 ev evs k ks req reqs _ _ _ _ _ hl ih
  | case8 ev evs k ks req reqs _ _ _ _ _ hl ih =>
    obtain ⟨r, hr⟩ := ih fun e he => h e (List.mem_cons_of_mem _ he); rw [hl] at hr; cases hr
  | _ => exact ⟨_, rfl⟩

end RecL

/-- the shape the four container steps share: the container level decides (`pre = .inl`), or the loop over the
    components runs, here through its graph `G`, and `fin` finishes its result -/
theorem contStep_some {ι κ : Type} {pre : (Out × List Ev) ⊕ (PyVal × ι × List Ev)} {loop : PyVal → ι → Option κ}
    {G : PyVal → ι → κ → Prop} {fin : PyVal → List Ev → κ → Out × List Ev} {step : Res} {p : Out × List Ev}
    (hl : ∀ r, pre = .inl r → step = some r)
    (hr : ∀ y xs t, pre = .inr (y, xs, t) → step = (loop y xs).map (fin y t))
    (hG : ∀ y xs l, loop y xs = some l ↔ G y xs l) :
    step = some p ↔ pre = .inl p ∨ ∃ y xs t l, pre = .inr (y, xs, t) ∧ G y xs l ∧ p = fin y t l := by
  rcases pre with r | ⟨y, xs, t⟩
  · simp only [hl r rfl, Option.some.injEq, Sum.inl.injEq, reduceCtorEq, false_and, exists_false, or_false]
  · simp only [hr y xs t rfl, Option.map_eq_some_iff, ← hG, reduceCtorEq, Sum.inr.injEq, Prod.mk.injEq, false_or]
    constructor
    · rintro ⟨l, hl, rfl⟩; exact ⟨y, xs, t, l, ⟨rfl, rfl, rfl⟩, hl, rfl⟩
    · rintro ⟨_, _, _, l, ⟨rfl, rfl, rfl⟩, hl, rfl⟩; exact ⟨l, hl, rfl⟩

theorem seqStep_some {k o m vid ps aps c ev x p} :
    seqStep k o m vid ps aps c ev x = some p ↔
      seqPre k o m vid ps aps c x = .inl p ∨
      ∃ y xs t l, seqPre k o m vid ps aps c x = .inr (y, xs, t) ∧ Items ev (k == .set) xs 0 true l ∧
        p = (finishSeq k vid y l, t ++ l.t) :=
  contStep_some (loop := fun _ xs => loopItems ev (k == .set) xs 0 true) (fin := fun y t l => (finishSeq k vid y l, t ++ l.t))
    (fun r h => by rw [seqStep, h])
    (fun y xs t h => by simp only [seqStep, h]; cases loopItems ev (k == .set) xs 0 true <;> rfl)
    fun _ _ _ => ⟨Items.of_loop, Items.loop⟩

theorem ntupleStep_some {o vid oc c lp evs x p} :
    ntupleStep o vid oc c lp evs x = some p ↔
      ntuplePre o vid c lp evs.length x = .inl p ∨
      ∃ y xs t l, ntuplePre o vid c lp evs.length x = .inr (y, xs, t) ∧ Fields evs xs 0 l ∧
        p = ntupleFinish vid oc y t l :=
  contStep_some (loop := fun _ xs => loopFields evs xs 0) (fin := ntupleFinish vid oc)
    (fun r h => by rw [ntupleStep, h])
    (fun y xs t h => by simp only [ntupleStep, h]; cases loopFields evs xs 0 <;> rfl)
    fun _ _ _ => ⟨Fields.of_loop, Fields.loop⟩

theorem mapStep_some {o m vid ps aps c evk evv x p} :
    mapStep o m vid ps aps c evk evv x = some p ↔
      mapPre o m vid ps aps c x = .inl p ∨
      ∃ y kvs t l, mapPre o m vid ps aps c x = .inr (y, kvs, t) ∧ MapL evk evv kvs [] l ∧
        p = mapFinish vid y t l :=
  contStep_some (loop := fun _ kvs => mapLoop evk evv kvs []) (fin := mapFinish vid)
    (fun r h => by rw [mapStep, h])
    (fun y kvs t h => by simp only [mapStep, h]; cases mapLoop evk evv kvs [] <;> rfl)
    fun _ _ _ => ⟨MapL.of_loop, MapL.loop⟩

theorem recordStep_some {o m vid cfg evs x p} :
    recordStep o m vid cfg evs x = some p ↔
      recPre o m vid cfg x = .inl p ∨
      ∃ y data t l, recPre o m vid cfg x = .inr (y, data, t) ∧ RecL vid y data evs cfg.keys cfg.reqs l ∧
        p = recFinish m vid cfg y t l :=
  contStep_some (loop := fun y data => recLoop vid y data evs cfg.keys cfg.reqs) (fin := recFinish m vid cfg)
    (fun r h => by rw [recordStep, h])
    (fun y data t h => by simp only [recordStep, h]; cases recLoop vid y data evs cfg.keys cfg.reqs <;> rfl)
    fun _ _ _ => ⟨RecL.of_loop, RecL.loop⟩

def unionFinish (vid : Nat) (x : PyVal) : Option PyVal × List Inv × List Ev × Option Exn → Out × List Ev
  | (_, _, t, some e) => (.raised e, t)
  | (some w, _, t, none) => (.valid w, t)
  | (none, es, t, none) => (.invalid (.mk .union x vid es), t)

theorem unionStep_some {vid evs x p} :
    unionStep vid evs x = some p ↔ ∃ q, UnionL x evs q ∧ p = unionFinish vid x q := by
  unfold unionStep
  constructor
  · intro h
    split at h
    · cases h
    all_goals (rename_i hl; cases h; exact ⟨_, .of_loop hl, rfl⟩)
  · rintro ⟨q, hl, rfl⟩
    rw [hl.loop]
    obtain ⟨w, es, t, r⟩ := q
    cases r with
    | some e => rfl
    | none => cases w <;> rfl

theorem runObjCheck_clean (oc : Option ObjCheck) (vid : Nat) (obj : PyVal) (e : Exn) :
    (runObjCheck oc vid obj).1 ≠ .raised e := by
  fun_cases runObjCheck oc vid obj <;> exact Out.noConfusion

theorem runAObjCheck_clean (m : Mode) (aoc : Option ObjCheck) (vid : Nat) (obj : PyVal) (e : Exn) :
    (runAObjCheck m aoc vid obj).1 ≠ .raised e := by
  fun_cases runAObjCheck m aoc vid obj <;> exact Out.noConfusion

theorem finishSeq_raised {k vid y l e} : finishSeq k vid y l = .raised e ↔ l.r = some e := by
  fun_cases finishSeq k vid y l
  case case1 e' h => rw [h]; exact ⟨fun h => by cases h; rfl, fun h => by cases h; rfl⟩
  all_goals (rw [‹l.r = none›]; exact ⟨nofun, nofun⟩)

theorem ntupleFinish_raised {vid oc y t l e} : (ntupleFinish vid oc y t l).1 = .raised e ↔ l.r = some e := by
  fun_cases ntupleFinish vid oc y t l
  case case1 e' h => rw [h]; exact ⟨fun h => by cases h; rfl, fun h => by cases h; rfl⟩
  case case2 => rw [‹l.r = none›]; exact ⟨nofun, nofun⟩
  case case3 => rw [‹l.r = none›]; exact ⟨fun h => absurd h (runObjCheck_clean _ _ _ _), nofun⟩

theorem mapFinish_raised {vid y t l e} : (mapFinish vid y t l).1 = .raised e ↔ l.r = some e := by
  fun_cases mapFinish vid y t l
  case case1 e' h => rw [h]; exact ⟨fun h => by cases h; rfl, fun h => by cases h; rfl⟩
  all_goals (rw [‹l.r = none›]; exact ⟨nofun, nofun⟩)

theorem recFinish_raised {m vid cfg y t l e} : (recFinish m vid cfg y t l).1 = .raised e ↔ l.r = some e := by
  fun_cases recFinish m vid cfg y t l
  case case1 e' h => rw [h]; exact ⟨fun h => by cases h; rfl, fun h => by cases h; rfl⟩
  case case2 => rw [‹l.r = none›]; exact ⟨nofun, nofun⟩
  case case3 => rw [‹l.r = none›]; exact ⟨fun h => absurd h (runAObjCheck_clean _ _ _ _ _), nofun⟩
  case case4 => rw [‹l.r = none›]; exact ⟨fun h => absurd h (runObjCheck_clean _ _ _ _), nofun⟩

/-- the error a sequence reports for failing elements: `IndexErrs` keyed by position (lists,
    tuples) or `SetErrs` (one entry per failing member), holding the coerced container -/
def seqElemErr (k : SeqKind) (vid : Nat) (y : PyVal) (es : List (Nat × Inv)) : Inv :=
  match k with
  | .set => .mk .set y vid (es.map Prod.snd)
  | _ => .mk (.index (es.map Prod.fst)) y vid (es.map Prod.snd)

theorem finishSeq_cases (k : SeqKind) (vid : Nat) (y : PyVal) (r : LoopR) :
    (∃ e, r.r = some e ∧ finishSeq k vid y r = .raised e) ∨
    (r.r = none ∧ r.es = [] ∧ finishSeq k vid y r = .valid (k.build r.ws)) ∨
    (r.r = none ∧ r.es ≠ [] ∧ finishSeq k vid y r = .invalid (seqElemErr k vid y r.es)) := by
  obtain ⟨ws, es, t, rr⟩ := r
  cases rr with
  | some e => exact .inl ⟨e, rfl, rfl⟩
  | none =>
    cases es with
    | nil => exact .inr (.inl ⟨rfl, rfl, rfl⟩)
    | cons p es => exact .inr (.inr ⟨rfl, nofun, by cases k <;> rfl⟩)

theorem finishSeq_valid {k : SeqKind} {vid : Nat} {y w : PyVal} {r : LoopR} :
    finishSeq k vid y r = .valid w ↔ r.r = none ∧ r.es = [] ∧ w = k.build r.ws := by
  rcases finishSeq_cases k vid y r with ⟨e, hr, h⟩ | ⟨hr, hes, h⟩ | ⟨hr, hes, h⟩ <;> rw [h]
  · exact ⟨nofun, fun h' => nomatch hr.symm.trans h'.1⟩
  · exact ⟨fun h' => ⟨hr, hes, (Out.valid.inj h').symm⟩, fun h' => congrArg _ h'.2.2.symm⟩
  · exact ⟨nofun, fun h' => absurd h'.2.1 hes⟩

theorem finishSeq_invalid {k : SeqKind} {vid : Nat} {y : PyVal} {e : Inv} {r : LoopR} :
    finishSeq k vid y r = .invalid e ↔ r.r = none ∧ r.es ≠ [] ∧ e = seqElemErr k vid y r.es := by
  rcases finishSeq_cases k vid y r with ⟨e', hr, h⟩ | ⟨hr, hes, h⟩ | ⟨hr, hes, h⟩ <;> rw [h]
  · exact ⟨nofun, fun h' => nomatch hr.symm.trans h'.1⟩
  · exact ⟨nofun, fun h' => absurd hes h'.2.1⟩
  · exact ⟨fun h' => ⟨hr, hes, (Out.invalid.inj h').symm⟩, fun h' => congrArg _ h'.2.2.symm⟩

theorem runObjCheck_valid {oc : Option ObjCheck} {vid : Nat} {obj w : PyVal}
    (h : (runObjCheck oc vid obj).1 = .valid w) : w = obj := by
  unfold runObjCheck at h
  split at h
  · exact (Out.valid.inj h).symm
  · split at h
    · exact (Out.valid.inj h).symm
    · cases h

theorem ntupleFinish_valid {vid : Nat} {oc : Option ObjCheck} {y w : PyVal} {t t' : List Ev} {r : LoopR}
    (h : ntupleFinish vid oc y t r = (.valid w, t')) :
    r.r = none ∧ r.es = [] ∧ w = .tuple 0 r.ws ∧ (runObjCheck oc vid w).1 = .valid w ∧
      t' = t ++ r.t ++ (runObjCheck oc vid w).2 := by
  obtain ⟨ws, es, t1, rr⟩ := r
  cases rr with
  | some e => cases h
  | none =>
    cases es with
    | cons p es => cases h
    | nil =>
      obtain ⟨h1, rfl⟩ := Prod.mk.inj h
      cases runObjCheck_valid h1
      exact ⟨rfl, rfl, rfl, h1, rfl⟩

theorem mapFinish_valid {vid : Nat} {y w : PyVal} {t t' : List Ev} {l : MapR} (h : mapFinish vid y t l = (.valid w, t')) :
    l.r = none ∧ l.ks = [] ∧ w = .dict 0 l.out := by
  unfold mapFinish at h
  split at h
  · cases h
  · rename_i hr
    split at h
    · rename_i hk
      cases h
      exact ⟨hr, List.isEmpty_iff.1 hk, rfl⟩
    · cases h

theorem mapFinish_fst (vid : Nat) (y : PyVal) (t t' : List Ev) (l : MapR) :
    (mapFinish vid y t l).1 = (mapFinish vid y t' l).1 := by
  unfold mapFinish
  split
  · rfl
  · split <;> rfl

theorem recFinish_valid {m vid cfg y t r w} (h : (recFinish m vid cfg y t r).1 = .valid w) :
    r.r = none ∧ r.ks = [] := by
  unfold recFinish at h
  split at h
  · cases h
  · split at h
    · cases h
    · rename_i h1 h2; exact ⟨h1, by simpa using h2⟩

def knrOut : Out → Out
  | .valid w => .valid (.just 0 w)
  | o => o

theorem knrStep_eq (ev : Ev1) (x : PyVal) : knrStep ev x = (ev x).map fun p => (knrOut p.1, p.2) := by
  unfold knrStep
  split
  · rename_i h; rw [h]; rfl
  · rename_i h; rw [h]; rfl
  · rename_i o hne h
    rw [h]
    obtain ⟨o, t⟩ := o
    cases o with
    | valid w => exact absurd rfl (hne w t)
    | _ => rfl

theorem userStep_eq (vid : Nat) (m : Mode) (ev : Ev1) (x : PyVal) :
    userStep vid m ev x = (ev x).map fun p => (p.1, Ev.uv vid m :: p.2) := by
  unfold userStep
  split <;> (rename_i h; rw [h]; rfl)

def maybeOut (vid : Nat) (x : PyVal) : Out → Out
  | .valid w => .valid (.just 0 w)
  | .invalid e => .invalid (.mk .container x vid [e])
  | .raised e => .raised e

theorem maybeStep_just (vid : Nat) (ev : Ev1) (oid : Nat) (v : PyVal) :
    maybeStep vid ev (.just oid v) = (ev v).map fun p => (maybeOut vid (.just oid v) p.1, p.2) := by
  simp only [maybeStep]
  split <;> (rename_i h; rw [h]; rfl)

theorem maybeStep_cases (x : PyVal) :
    (∃ oid v, x = .just oid v) ∨ (∀ vid ev, maybeStep vid ev x = some (.valid .nothing, [])) ∨
      ∀ vid ev, maybeStep vid ev x = some (.invalid (.mk (.type .maybeAny) x vid []), []) := by
  cases x with
  | just oid v => exact .inl ⟨oid, v, rfl⟩
  | nothing => exact .inr (.inl fun _ _ => rfl)
  | _ => exact .inr (.inr fun _ _ => rfl)

end Koda
