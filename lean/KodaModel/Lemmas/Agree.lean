/-
  Sync/async agreement, step by step.

  `Rel evS evA`: whenever the sync child evaluator returns an outcome other than the guard's
  `AssertionError`, the async child evaluator returns the *same* outcome, and its trace contains no
  async-only event.  Every step preserves `Rel`; `run` therefore satisfies it (Properties/C06).
-/
import KodaModel.Lemmas.Mono
import KodaModel.Lemmas.Raises

namespace Koda

/-- no async-only check was evaluated -/
def noA (t : List Ev) : Bool :=
  t.all (fun e => match e with | .apred _ => false | .aoc _ => false | _ => true)

@[simp] theorem noA_nil : noA [] = true := rfl

@[simp] theorem noA_append (a b : List Ev) : noA (a ++ b) = (noA a && noA b) := by
  simp [noA, List.all_append]

@[simp] theorem noA_cons (e : Ev) (t : List Ev) :
    noA (e :: t) = ((match e with | .apred _ => false | .aoc _ => false | _ => true) && noA t) := by
  simp [noA]

theorem noA_app {a b : List Ev} (ha : noA a = true) (hb : noA b = true) : noA (a ++ b) = true := by
  rw [noA_append, ha, hb]; rfl

def Rel (evS evA : Ev1) : Prop :=
  ∀ x r t, evS x = some (r, t) → r ≠ .raised .assertion → ∃ ta, evA x = some (r, ta) ∧ noA ta = true

inductive RelL : List Ev1 → List Ev1 → Prop
  | nil : RelL [] []
  | cons {f g fs gs} : Rel f g → RelL fs gs → RelL (f :: fs) (g :: gs)

theorem RelL.length {fs gs} (h : RelL fs gs) : fs.length = gs.length := by
  induction h with
  | nil => rfl
  | cons _ _ ih => simp [ih]

theorem RelL.map {α} (F G : α → Ev1) (h : ∀ a, Rel (F a) (G a)) : ∀ l : List α, RelL (l.map F) (l.map G)
  | [] => .nil
  | a :: l => .cons (h a) (RelL.map F G h l)

theorem noA_pred_ev (p : Pred) : noA p.ev = true := by
  unfold Pred.ev; split <;> simp

theorem noA_runPreds (ps : List Pred) (x : PyVal) : noA (runPreds ps x).2.1 = true := by
  induction ps with
  | nil => simp [runPreds]
  | cons p ps ih =>
    simp only [runPreds]
    split
    · simp [noA_pred_ev]
    · simp [noA_pred_ev, ih]

theorem noA_proc_ev (p : Proc) : noA p.ev = true := by
  unfold Proc.ev; split <;> simp

theorem noA_runProcs (ps : List Proc) (x : PyVal) : noA (runProcs ps x).2 = true := by
  induction ps generalizing x with
  | nil => simp [runProcs]
  | cons p ps ih =>
    simp only [runProcs]
    split
    · simp [noA_proc_ev]
    · simp [noA_proc_ev, ih]

theorem CoerceLog.noA {t : List Ev} (h : CoerceLog t) : noA t = true := by
  rcases h with rfl | ⟨cid, rfl⟩ <;> rfl

theorem Gate.Wf.noA {g : Gate} (h : g.Wf) : noA g.tr = true := h.log.noA

theorem noA_runObjCheck (oc : Option ObjCheck) (vid : Nat) (obj : PyVal) :
    noA (runObjCheck oc vid obj).2 = true := by
  unfold runObjCheck
  split
  · rfl
  · split <;> rfl

theorem contPreds_async_nil (ps : List Pred) (x : PyVal) :
    contPreds .async ps [] x = contPreds .sync ps [] x := by
  simp only [contPreds]
  split
  · rfl
  · simp [runAPreds]

theorem noA_contPreds_sync (ps aps : List Pred) (x : PyVal) : noA (contPreds .sync ps aps x).2.1 = true := by
  simp only [contPreds]
  split <;> simp [noA_runPreds]

theorem finishPreds_trace (vid : Nat) (z : PyVal) (t : List Ev) (q : List Nat × List Ev × Option Exn) :
    (finishPreds vid z t q).2 = t ++ q.2.1 := by
  fun_cases finishPreds vid z t q <;> rfl

theorem scalarStep_agree (o : Oracle) (vid : Nat) (tg : Ty) (c : Option CoerceK) (pre : List Proc)
    (ps aps : List Pred) (x : PyVal) (r : Out) (t : List Ev)
    (h : scalarStep o .sync vid tg c pre ps aps x = (r, t)) (hr : r ≠ .raised .assertion) :
    scalarStep o .async vid tg c pre ps aps x = (r, t) ∧ noA t = true := by
  have haps : aps = [] := by
    by_cases ha : aps = []
    · exact ha
    · simp [scalarStep, ha] at h; exact absurd h.1.symm hr
  subst haps
  have e : scalarStep o .async vid tg c pre ps [] x = scalarStep o .sync vid tg c pre ps [] x := by
    simp [scalarStep, contPreds_async_nil]
  refine ⟨by rw [e, h], ?_⟩
  -- the trace: gate ++ processors ++ sync predicates
  have pr : ∀ {y a t2}, runProcs pre y = (a, t2) → noA t2 = true := fun {y _ _} hp => by
    have := noA_runProcs pre y; rw [hp] at this; exact this
  revert h
  fun_cases scalarStep o .sync vid tg c pre ps [] x <;> intro h
  case case1 hg => exact absurd rfl hg.2
  case case2 hg | case3 hg => cases h; exact (gate_eq_wf hg).noA
  case case4 hg _ _ hp => cases h; exact noA_app (gate_eq_wf hg).noA (pr hp)
  case case5 hg z _ hp =>
    obtain rfl : t = _ := (congrArg Prod.snd h).symm.trans (finishPreds_trace ..)
    exact noA_app (noA_app (gate_eq_wf hg).noA (pr hp)) (noA_contPreds_sync ps [] z)

theorem equalsStep_noA (vid : Nat) (mt : PyVal) (pre : List Proc) (pid : Nat) (x : PyVal) :
    noA (equalsStep vid mt pre pid x).2 = true := by
  have hp := noA_runProcs pre x
  fun_cases equalsStep vid mt pre pid x
  case case5 => rfl
  all_goals (rw [‹runProcs pre x = _›] at hp; exact hp)

theorem noneStep_noA (o : Oracle) (vid : Nat) (c : Option CoerceK) (x : PyVal) :
    noA (noneStep o vid c x).2 = true := by
  fun_cases noneStep o vid c x
  case case4 | case5 => rfl
  all_goals (rename_i c _ _ h; exact (applyCoerce_eq_wf h).noA)

theorem raised_ne_assertion {e : Exn} (h : some e ≠ some Exn.assertion) : Out.raised e ≠ .raised .assertion :=
  fun hh => h (by cases hh; rfl)

theorem Items.agree {f g : Ev1} (h : Rel f g) {hq xs i ne r} (hi : Items f hq xs i ne r)
    (hne : r.r ≠ some .assertion) : ∃ ta, Items g hq xs i ne ⟨r.ws, r.es, ta, r.r⟩ ∧ noA ta = true := by
  induction hi with
  | nil => exact ⟨[], .nil _ _, rfl⟩
  | raised hx => obtain ⟨ta, hA, hn⟩ := h _ _ _ hx (raised_ne_assertion hne); exact ⟨ta, .raised hA, hn⟩
  | unhashable hx hc => obtain ⟨ta, hA, hn⟩ := h _ _ _ hx nofun; exact ⟨ta, .unhashable hA hc, hn⟩
  | valid hx hc _ ih =>
    obtain ⟨ta, hA, hn⟩ := h _ _ _ hx nofun
    obtain ⟨tb, hB, hm⟩ := ih hne
    exact ⟨ta ++ tb, .valid hA hc hB, noA_app hn hm⟩
  | invalid hx _ ih =>
    obtain ⟨ta, hA, hn⟩ := h _ _ _ hx nofun
    obtain ⟨tb, hB, hm⟩ := ih hne
    exact ⟨ta ++ tb, .invalid hA hB, noA_app hn hm⟩

theorem loopItems_agree {evS evA : Ev1} (h : Rel evS evA) (hq : Bool) :
    ∀ xs i ne rS, loopItems evS hq xs i ne = some rS → rS.r ≠ some .assertion →
      ∃ rA, loopItems evA hq xs i ne = some rA ∧ rA.ws = rS.ws ∧ rA.es = rS.es ∧ rA.r = rS.r ∧
        noA rA.t = true := by
  intro xs i ne rS hS hne
  obtain ⟨ta, hA, hn⟩ := (Items.of_loop hS).agree h hne
  exact ⟨_, hA.loop, rfl, rfl, rfl, hn⟩

theorem Fields.agree {fs gs : List Ev1} (h : RelL fs gs) {xs i r} (hf : Fields fs xs i r)
    (hne : r.r ≠ some .assertion) : ∃ ta, Fields gs xs i ⟨r.ws, r.es, ta, r.r⟩ ∧ noA ta = true := by
  induction hf generalizing gs with
  | done i hd => exact ⟨[], .done i (hd.imp (fun e => by subst e; cases h; rfl) id), rfl⟩
  | raised hx =>
    cases h with | cons hfg _ =>
    obtain ⟨ta, hA, hn⟩ := hfg _ _ _ hx (raised_ne_assertion hne); exact ⟨ta, .raised hA, hn⟩
  | valid hx _ ih =>
    cases h with | cons hfg hr =>
    obtain ⟨ta, hA, hn⟩ := hfg _ _ _ hx nofun
    obtain ⟨tb, hB, hm⟩ := ih hr hne
    exact ⟨ta ++ tb, .valid hA hB, noA_app hn hm⟩
  | invalid hx _ ih =>
    cases h with | cons hfg hr =>
    obtain ⟨ta, hA, hn⟩ := hfg _ _ _ hx nofun
    obtain ⟨tb, hB, hm⟩ := ih hr hne
    exact ⟨ta ++ tb, .invalid hA hB, noA_app hn hm⟩

theorem UnionL.agree {fs gs : List Ev1} (h : RelL fs gs) {x w es t r} (hu : UnionL x fs (w, es, t, r))
    (hne : r ≠ some .assertion) : ∃ ta, UnionL x gs (w, es, ta, r) ∧ noA ta = true := by
  generalize hq : (w, es, t, r) = q at hu
  induction hu generalizing gs w es t r with
  | nil => cases hq; cases h; exact ⟨[], .nil, rfl⟩
  | raised hx =>
    cases hq; cases h with | cons hfg _ =>
    obtain ⟨ta, hA, hn⟩ := hfg _ _ _ hx (raised_ne_assertion hne); exact ⟨ta, .raised hA, hn⟩
  | valid hx =>
    cases hq; cases h with | cons hfg _ =>
    obtain ⟨ta, hA, hn⟩ := hfg _ _ _ hx nofun; exact ⟨ta, .valid hA, hn⟩
  | invalid hx _ ih =>
    cases hq; cases h with | cons hfg hr =>
    obtain ⟨ta, hA, hn⟩ := hfg _ _ _ hx nofun
    obtain ⟨tb, hB, hm⟩ := ih hr hne rfl
    exact ⟨ta ++ tb, .invalid hA hB, noA_app hn hm⟩

theorem MapL.agree {fk gk fv gv : Ev1} (hk : Rel fk gk) (hv : Rel fv gv) {kvs acc r} (hm : MapL fk fv kvs acc r)
    (hne : r.r ≠ some .assertion) : ∃ ta, MapL gk gv kvs acc { r with t := ta } ∧ noA ta = true := by
  have nr : ∀ {o : Out}, (∀ e, o ≠ .raised e) → o ≠ .raised .assertion := fun h => h _
  induction hm with
  | nil => exact ⟨[], .nil _, rfl⟩
  | keyRaised hx =>
    obtain ⟨ta, hA, hn⟩ := hk _ _ _ hx (raised_ne_assertion hne); exact ⟨ta, .keyRaised hA, hn⟩
  | valRaised hx hko hy =>
    obtain ⟨ta, hA, hn⟩ := hk _ _ _ hx (nr hko)
    obtain ⟨tb, hB, hm⟩ := hv _ _ _ hy (raised_ne_assertion hne)
    exact ⟨ta ++ tb, .valRaised hA hko hB, noA_app hn hm⟩
  | unhashable hx hy hh =>
    obtain ⟨ta, hA, hn⟩ := hk _ _ _ hx nofun
    obtain ⟨tb, hB, hm⟩ := hv _ _ _ hy nofun
    exact ⟨ta ++ tb, .unhashable hA hB hh, noA_app hn hm⟩
  | stored hx hy hh _ ih =>
    obtain ⟨ta, hA, hn⟩ := hk _ _ _ hx nofun
    obtain ⟨tb, hB, hm⟩ := hv _ _ _ hy nofun
    obtain ⟨tc, hC, hl⟩ := ih hne
    exact ⟨ta ++ tb ++ tc, .stored hA hB hh hC, noA_app (noA_app hn hm) hl⟩
  | keyFailed hx hy _ ih =>
    obtain ⟨ta, hA, hn⟩ := hk _ _ _ hx nofun
    obtain ⟨tb, hB, hm⟩ := hv _ _ _ hy nofun
    obtain ⟨tc, hC, hl⟩ := ih hne
    exact ⟨ta ++ tb ++ tc, .keyFailed hA hB hC, noA_app (noA_app hn hm) hl⟩
  | valFailed hx hy _ ih =>
    obtain ⟨ta, hA, hn⟩ := hk _ _ _ hx nofun
    obtain ⟨tb, hB, hm⟩ := hv _ _ _ hy nofun
    obtain ⟨tc, hC, hl⟩ := ih hne
    exact ⟨ta ++ tb ++ tc, .valFailed hA hB hC, noA_app (noA_app hn hm) hl⟩
  | bothFailed hx hy _ ih =>
    obtain ⟨ta, hA, hn⟩ := hk _ _ _ hx nofun
    obtain ⟨tb, hB, hm⟩ := hv _ _ _ hy nofun
    obtain ⟨tc, hC, hl⟩ := ih hne
    exact ⟨ta ++ tb ++ tc, .bothFailed hA hB hC, noA_app (noA_app hn hm) hl⟩

theorem RecL.agree {vid dv data} {fs gs : List Ev1} (h : RelL fs gs) {ks reqs r}
    (hl : RecL vid dv data fs ks reqs r) (hne : r.r ≠ some .assertion) :
    ∃ ta, RecL vid dv data gs ks reqs { r with t := ta } ∧ noA ta = true := by
  induction hl generalizing gs with
  | done hd => exact ⟨[], .done (hd.imp (fun e => by subst e; cases h; rfl) id), rfl⟩
  | missing hd _ ih =>
    cases h with | cons _ hr => obtain ⟨tb, hB, hm⟩ := ih hr hne; exact ⟨tb, .missing hd hB, hm⟩
  | absent hd _ ih =>
    cases h with | cons _ hr => obtain ⟨tb, hB, hm⟩ := ih hr hne; exact ⟨tb, .absent hd hB, hm⟩
  | raised hd hx =>
    cases h with | cons hfg _ =>
    obtain ⟨ta, hA, hn⟩ := hfg _ _ _ hx (raised_ne_assertion hne); exact ⟨ta, .raised hd hA, hn⟩
  | valid hd hx _ ih =>
    cases h with | cons hfg hr =>
    obtain ⟨ta, hA, hn⟩ := hfg _ _ _ hx nofun
    obtain ⟨tb, hB, hm⟩ := ih hr hne
    exact ⟨ta ++ tb, .valid hd hA hB, noA_app hn hm⟩
  | invalid hd hx _ ih =>
    cases h with | cons hfg hr =>
    obtain ⟨ta, hA, hn⟩ := hfg _ _ _ hx nofun
    obtain ⟨tb, hB, hm⟩ := ih hr hne
    exact ⟨ta ++ tb, .invalid hd hA hB, noA_app hn hm⟩

/-! ### container levels: once the sync guard passed, the two modes coincide -/

def preTrace {α} : (Out × List Ev) ⊕ (PyVal × α × List Ev) → List Ev
  | .inl r => r.2
  | .inr q => q.2.2

theorem ContPre.agree {α gateTy destTy} {items : PyVal → Option α} {exn o vid ps aps c x p}
    (h : ContPre gateTy destTy items exn o .sync vid ps aps c x p) :
    p = .inl (.raised .assertion, []) ∨
      (ContPre gateTy destTy items exn o .async vid ps aps c x p ∧ noA (preTrace p) = true) := by
  have nil : ¬ (Mode.sync = .sync ∧ aps ≠ []) → aps = [] := fun hg => Decidable.not_not.1 fun ha => hg ⟨rfl, ha⟩
  have pr : ∀ {y f t2 e}, contPreds .sync ps [] y = (f, t2, e) →
      contPreds .async ps [] y = (f, t2, e) ∧ noA t2 = true :=
    fun {y _ _ _} hp => ⟨(contPreds_async_nil ps y).trans hp, by have := noA_contPreds_sync ps [] y; rw [hp] at this; exact this⟩
  cases h with
  | guard => exact .inl rfl
  | rej hg hgate => exact .inr ⟨.rej nofun hgate, (gate_eq_wf hgate).noA⟩
  | predExn hg hgate hp =>
    cases nil hg
    exact .inr ⟨.predExn nofun hgate (pr hp).1, noA_app (gate_eq_wf hgate).noA (pr hp).2⟩
  | predFail hg hgate hp =>
    cases nil hg
    exact .inr ⟨.predFail nofun hgate (pr hp).1, noA_app (gate_eq_wf hgate).noA (pr hp).2⟩
  | noItems hg hgate hp hi =>
    cases nil hg
    exact .inr ⟨.noItems nofun hgate (pr hp).1 hi, noA_app (gate_eq_wf hgate).noA (pr hp).2⟩
  | pass hg hgate hp hi =>
    cases nil hg
    exact .inr ⟨.pass nofun hgate (pr hp).1 hi, noA_app (gate_eq_wf hgate).noA (pr hp).2⟩

theorem NtuplePre.noA {o vid c lp n x p}
    (h : NtuplePre o vid c lp n x p) : noA (preTrace p) = true := by
  cases h with
  | rej hg => exact (gate_eq_wf hg).noA
  | noLen hg | arity hg | noItems hg | pass hg => exact (gate_eq_wf hg).noA

theorem RecPre.agree {o vid cfg x p} (h : RecPre o .sync vid cfg x p) :
    p = .inl (.raised .assertion, []) ∨
      (cfg.aoc = none ∧ RecPre o .async vid cfg x p ∧ noA (preTrace p) = true) := by
  have nil : ¬ (Mode.sync = .sync ∧ cfg.aoc.isSome = true) → cfg.aoc = none := fun hg =>
    Option.not_isSome_iff_eq_none.1 fun ha => hg ⟨rfl, ha⟩
  cases h with
  | guard => exact .inl rfl
  | rej hg hgate => exact .inr ⟨nil hg, .rej nofun hgate, (recGate_eq_wf hgate).noA⟩
  | noItems hg hgate hd => exact .inr ⟨nil hg, .noItems nofun hgate hd, (recGate_eq_wf hgate).noA⟩
  | unknown hg hgate hd hu => exact .inr ⟨nil hg, .unknown nofun hgate hd hu, (recGate_eq_wf hgate).noA⟩
  | pass hg hgate hd hu => exact .inr ⟨nil hg, .pass nofun hgate hd hu, (recGate_eq_wf hgate).noA⟩

theorem seqStep_agree (k : SeqKind) (o : Oracle) (vid : Nat) (ps aps : List Pred) (c : Option CoerceK)
    {evS evA : Ev1} (hrel : Rel evS evA) :
    Rel (seqStep k o .sync vid ps aps c evS) (seqStep k o .async vid ps aps c evA) := by
  intro x r t h hr
  rcases seqStep_some.1 h with hp | ⟨y, xs, t0, l, hp, hl, e⟩
  · rcases (seqPre_eq_iff.1 hp).agree with hg | ⟨ha, hn⟩
    · cases hg; exact absurd rfl hr
    · exact ⟨t, seqStep_some.2 (.inl (seqPre_eq_iff.2 ha)), hn⟩
  · cases e
    rcases (seqPre_eq_iff.1 hp).agree with hg | ⟨ha, hn⟩
    · cases hg
    · obtain ⟨ta, hA, hna⟩ := hl.agree hrel fun hh => hr (finishSeq_raised.2 hh)
      have hn : noA t0 = true := hn
      exact ⟨t0 ++ ta, seqStep_some.2 (.inr ⟨y, xs, t0, _, seqPre_eq_iff.2 ha, hA, rfl⟩),
        noA_app hn hna⟩

theorem ntupleFinish_agree (vid : Nat) (oc : Option ObjCheck) (y : PyVal) {t ta : List Ev} (l : LoopR)
    (hn : noA t = true) (hna : noA ta = true) :
    ∃ t', ntupleFinish vid oc y t ⟨l.ws, l.es, ta, l.r⟩ = ((ntupleFinish vid oc y t l).1, t') ∧ noA t' = true := by
  obtain ⟨ws, es, t1, r⟩ := l
  unfold ntupleFinish
  cases r with
  | some e => exact ⟨_, rfl, noA_app hn hna⟩
  | none =>
    simp only
    split
    · exact ⟨_, rfl, noA_app hn hna⟩
    · exact ⟨_, rfl, noA_app (noA_app hn hna) (noA_runObjCheck ..)⟩

theorem ntupleStep_agree (o : Oracle) (vid : Nat) (oc : Option ObjCheck) (c : Option CoerceK) (lp : Nat)
    {fs gs : List Ev1} (hrel : RelL fs gs) : Rel (ntupleStep o vid oc c lp fs) (ntupleStep o vid oc c lp gs) := by
  intro x r t h hr
  rcases ntupleStep_some.1 h with hp | ⟨y, xs, t0, l, hp, hl, e⟩
  · exact ⟨t, ntupleStep_some.2 (.inl (hrel.length ▸ hp)), (ntuplePre_eq_iff.1 hp).noA⟩
  · obtain ⟨ta, hA, hna⟩ := hl.agree hrel fun hh => hr (by rw [← ntupleFinish_raised (t := t0), ← e] at hh; exact hh)
    obtain ⟨t', e', hn'⟩ := ntupleFinish_agree vid oc y (t := t0) l (ntuplePre_eq_iff.1 hp).noA hna
    rw [← e] at e'
    exact ⟨t', ntupleStep_some.2 (.inr ⟨y, xs, t0, _, hrel.length ▸ hp, hA, e'.symm⟩), hn'⟩

theorem mapFinish_agree (vid : Nat) (y : PyVal) {t ta : List Ev} (l : MapR) (hn : noA t = true) (hna : noA ta = true) :
    ∃ t', mapFinish vid y t { l with t := ta } = ((mapFinish vid y t l).1, t') ∧ noA t' = true := by
  obtain ⟨out, ks, shape, errs, t1, r⟩ := l
  unfold mapFinish
  cases r with
  | some e => exact ⟨_, rfl, noA_app hn hna⟩
  | none => simp only; split <;> exact ⟨_, rfl, noA_app hn hna⟩

theorem mapStep_agree (o : Oracle) (vid : Nat) (ps aps : List Pred) (c : Option CoerceK)
    {fk gk fv gv : Ev1} (hk : Rel fk gk) (hv : Rel fv gv) :
    Rel (mapStep o .sync vid ps aps c fk fv) (mapStep o .async vid ps aps c gk gv) := by
  intro x r t h hr
  rcases mapStep_some.1 h with hp | ⟨y, kvs, t0, l, hp, hl, e⟩
  · rcases (mapPre_eq_iff.1 hp).agree with hg | ⟨ha, hn⟩
    · cases hg; exact absurd rfl hr
    · exact ⟨t, mapStep_some.2 (.inl (mapPre_eq_iff.2 ha)), hn⟩
  · rcases (mapPre_eq_iff.1 hp).agree with hg | ⟨ha, hn⟩
    · cases hg
    · obtain ⟨ta, hA, hna⟩ := hl.agree hk hv fun hh => hr (by rw [← mapFinish_raised (t := t0), ← e] at hh; exact hh)
      obtain ⟨t', e', hn'⟩ := mapFinish_agree vid y (t := t0) l hn hna
      rw [← e] at e'
      exact ⟨t', mapStep_some.2 (.inr ⟨y, kvs, t0, _, mapPre_eq_iff.2 ha, hA, e'.symm⟩), hn'⟩

theorem runAObjCheck_none (m : Mode) (vid : Nat) (obj : PyVal) : runAObjCheck m none vid obj = (.valid obj, []) := by
  cases m <;> rfl

/-- without an async object check `recFinish` does not depend on the mode -/
theorem recFinish_async (vid : Nat) (cfg : RecCfg) (y : PyVal) (t : List Ev) (l : RecR) (haoc : cfg.aoc = none) :
    recFinish .async vid cfg y t l = recFinish .sync vid cfg y t l := by
  simp only [recFinish, haoc, runAObjCheck_none]

theorem recFinish_agree (vid : Nat) (cfg : RecCfg) (y : PyVal) {t ta : List Ev} (l : RecR)
    (hn : noA t = true) (hna : noA ta = true) :
    ∃ t', recFinish .sync vid cfg y t { l with t := ta } = ((recFinish .sync vid cfg y t l).1, t') ∧
      noA t' = true := by
  obtain ⟨got, ks, errs, t1, r⟩ := l
  cases r with
  | some e => exact ⟨_, rfl, noA_app hn hna⟩
  | none =>
    cases ks with
    | cons k ks => exact ⟨_, rfl, noA_app hn hna⟩
    | nil =>
      have hti : noA (if cfg.kind = .record then [Ev.into cfg.intoId] else []) = true := by split <;> rfl
      have ho := noA_app (noA_app (noA_app hn hna) hti) (noA_runObjCheck cfg.oc vid (recBuild cfg got))
      cases h : (runObjCheck cfg.oc vid (recBuild cfg got)).1 with
      | valid w => exact ⟨_, by simp only [recFinish, List.isEmpty_nil, Bool.not_true, Bool.false_eq_true, if_false, h]; rfl, noA_app ho rfl⟩
      | invalid e => exact ⟨_, by simp only [recFinish, List.isEmpty_nil, Bool.not_true, Bool.false_eq_true, if_false, h], ho⟩
      | raised e => exact ⟨_, by simp only [recFinish, List.isEmpty_nil, Bool.not_true, Bool.false_eq_true, if_false, h], ho⟩

theorem recordStep_agree (o : Oracle) (vid : Nat) (cfg : RecCfg) {fs gs : List Ev1} (hrel : RelL fs gs) :
    Rel (recordStep o .sync vid cfg fs) (recordStep o .async vid cfg gs) := by
  intro x r t h hr
  rcases recordStep_some.1 h with hp | ⟨y, data, t0, l, hp, hl, e⟩
  · rcases (recPre_eq_iff.1 hp).agree with hg | ⟨_, ha, hn⟩
    · cases hg; exact absurd rfl hr
    · exact ⟨t, recordStep_some.2 (.inl (recPre_eq_iff.2 ha)), hn⟩
  · rcases (recPre_eq_iff.1 hp).agree with hg | ⟨haoc, ha, hn⟩
    · cases hg
    · obtain ⟨ta, hA, hna⟩ := hl.agree hrel fun hh => hr (by rw [← recFinish_raised (t := t0), ← e] at hh; exact hh)
      obtain ⟨t', e', hn'⟩ := recFinish_agree vid cfg y (t := t0) l hn hna
      rw [← e, ← recFinish_async vid cfg y t0 _ haoc] at e'
      exact ⟨t', recordStep_some.2 (.inr ⟨y, data, t0, _, recPre_eq_iff.2 ha, hA, e'.symm⟩), hn'⟩

theorem unionStep_agree (vid : Nat) {fs gs : List Ev1} (hrel : RelL fs gs) :
    Rel (unionStep vid fs) (unionStep vid gs) := by
  intro x r t h hr
  obtain ⟨⟨w, es, t', rr⟩, hl, e⟩ := unionStep_some.1 h
  obtain ⟨ta, hA, hn⟩ := hl.agree hrel (by rintro rfl; cases e; exact hr rfl)
  refine ⟨ta, unionStep_some.2 ⟨_, hA, ?_⟩, hn⟩
  cases rr with
  | some e' => cases e; rfl
  | none => cases w <;> (cases e; rfl)

theorem maybeStep_agree (vid : Nat) {f g : Ev1} (hrel : Rel f g) : Rel (maybeStep vid f) (maybeStep vid g) := by
  intro x r t h hr
  rcases maybeStep_cases x with ⟨oid, v, rfl⟩ | hx | hx
  · rw [maybeStep_just] at h ⊢
    obtain ⟨⟨o, t0⟩, hv, e⟩ := Option.map_eq_some_iff.1 h
    cases e
    obtain ⟨ta, hA, hn⟩ := hrel v o t0 hv fun ho => hr (by rw [ho]; rfl)
    exact ⟨ta, by rw [hA]; rfl, hn⟩
  · rw [hx] at h ⊢; cases h; exact ⟨[], rfl, rfl⟩
  · rw [hx] at h ⊢; cases h; exact ⟨[], rfl, rfl⟩

theorem knrStep_agree {f g : Ev1} (hrel : Rel f g) : Rel (knrStep f) (knrStep g) := by
  intro x r t h hr
  rw [knrStep_eq] at h ⊢
  obtain ⟨⟨o, t0⟩, hx, e⟩ := Option.map_eq_some_iff.1 h
  cases e
  obtain ⟨ta, hA, hn⟩ := hrel x o t0 hx fun ho => hr (by rw [ho]; rfl)
  exact ⟨ta, by rw [hA]; rfl, hn⟩

theorem userStep_agree (vid : Nat) {f g : Ev1} (hrel : Rel f g) :
    Rel (userStep vid .sync f) (userStep vid .async g) := by
  intro x r t h hr
  rw [userStep_eq] at h ⊢
  obtain ⟨⟨o, t0⟩, hx, e⟩ := Option.map_eq_some_iff.1 h
  cases e
  obtain ⟨ta, hA, hn⟩ := hrel x o t0 hx hr
  exact ⟨.uv vid .async :: ta, by rw [hA]; rfl, by rw [noA_cons, hn]; rfl⟩

end Koda
