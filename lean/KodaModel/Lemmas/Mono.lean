/-
  Fuel monotonicity: more fuel never changes a result that was already produced.
  Each step is monotone in its child evaluators; `run_mono` follows by one case per kind.
  Hence `Run`, "terminates with", which does not mention fuel, is a partial function (`Run.unique`).
-/
import KodaModel.Lemmas.Loops

namespace Koda

/-- `g` is at least as defined as `f` and agrees with it -/
def Le (f g : Ev1) : Prop := ∀ a b, f a = some b → g a = some b

theorem Le.refl (f : Ev1) : Le f f := fun _ _ h => h

theorem Le.map {f g : Ev1} (h : Le f g) (φ : Out × List Ev → Out × List Ev) {x : PyVal} {r : Out × List Ev}
    (hres : (f x).map φ = some r) : (g x).map φ = some r := by
  obtain ⟨p, hp, rfl⟩ := Option.map_eq_some_iff.1 hres
  rw [h x p hp]; rfl

inductive LeL : List Ev1 → List Ev1 → Prop
  | nil : LeL [] []
  | cons {f g fs gs} : Le f g → LeL fs gs → LeL (f :: fs) (g :: gs)

theorem LeL.length {fs gs : List Ev1} (h : LeL fs gs) : fs.length = gs.length := by
  induction h with
  | nil => rfl
  | cons _ _ ih => simp [ih]

theorem LeL.map {α} (F G : α → Ev1) (h : ∀ a, Le (F a) (G a)) : ∀ l : List α, LeL (l.map F) (l.map G)
  | [] => .nil
  | a :: l => .cons (h a) (LeL.map F G h l)

theorem Items.mono {f g : Ev1} (h : Le f g) {hr xs i ne r} (hi : Items f hr xs i ne r) : Items g hr xs i ne r := by
  induction hi with
  | nil => exact .nil _ _
  | raised hx => exact .raised (h _ _ hx)
  | unhashable hx hc => exact .unhashable (h _ _ hx) hc
  | valid hx hc _ ih => exact .valid (h _ _ hx) hc ih
  | invalid hx _ ih => exact .invalid (h _ _ hx) ih

theorem Fields.mono {fs gs : List Ev1} (h : LeL fs gs) {xs i r} (hf : Fields fs xs i r) : Fields gs xs i r := by
  induction hf generalizing gs with
  | done i hd => exact .done i (hd.imp (fun e => by subst e; cases h; rfl) id)
  | raised hx => cases h with | cons hfg _ => exact .raised (hfg _ _ hx)
  | valid hx _ ih => cases h with | cons hfg hr => exact .valid (hfg _ _ hx) (ih hr)
  | invalid hx _ ih => cases h with | cons hfg hr => exact .invalid (hfg _ _ hx) (ih hr)

theorem UnionL.mono {fs gs : List Ev1} (h : LeL fs gs) {x r} (hu : UnionL x fs r) : UnionL x gs r := by
  induction hu generalizing gs with
  | nil => cases h; exact .nil
  | raised hx => cases h with | cons hfg _ => exact .raised (hfg _ _ hx)
  | valid hx => cases h with | cons hfg _ => exact .valid (hfg _ _ hx)
  | invalid hx _ ih => cases h with | cons hfg hr => exact .invalid (hfg _ _ hx) (ih hr)

theorem MapL.mono {fk gk fv gv : Ev1} (hk : Le fk gk) (hv : Le fv gv) {kvs acc r} (hm : MapL fk fv kvs acc r) :
    MapL gk gv kvs acc r := by
  induction hm with
  | nil => exact .nil _
  | keyRaised hx => exact .keyRaised (hk _ _ hx)
  | valRaised hx hne hy => exact .valRaised (hk _ _ hx) hne (hv _ _ hy)
  | unhashable hx hy hh => exact .unhashable (hk _ _ hx) (hv _ _ hy) hh
  | stored hx hy hh _ ih => exact .stored (hk _ _ hx) (hv _ _ hy) hh ih
  | keyFailed hx hy _ ih => exact .keyFailed (hk _ _ hx) (hv _ _ hy) ih
  | valFailed hx hy _ ih => exact .valFailed (hk _ _ hx) (hv _ _ hy) ih
  | bothFailed hx hy _ ih => exact .bothFailed (hk _ _ hx) (hv _ _ hy) ih

theorem RecL.mono {vid dv data} {fs gs : List Ev1} (h : LeL fs gs) {ks reqs r}
    (hl : RecL vid dv data fs ks reqs r) : RecL vid dv data gs ks reqs r := by
  induction hl generalizing gs with
  | done hd => exact .done (hd.imp (fun e => by subst e; cases h; rfl) id)
  | missing hd _ ih => cases h with | cons _ hr => exact .missing hd (ih hr)
  | absent hd _ ih => cases h with | cons _ hr => exact .absent hd (ih hr)
  | raised hd hx => cases h with | cons hfg _ => exact .raised hd (hfg _ _ hx)
  | valid hd hx _ ih => cases h with | cons hfg hr => exact .valid hd (hfg _ _ hx) (ih hr)
  | invalid hd hx _ ih => cases h with | cons hfg hr => exact .invalid hd (hfg _ _ hx) (ih hr)

theorem seqStep_mono {k o m vid ps aps c f g} (h : Le f g) :
    Le (seqStep k o m vid ps aps c f) (seqStep k o m vid ps aps c g) :=
  fun _ _ hres => seqStep_some.2 <| (seqStep_some.1 hres).imp_right
    fun ⟨y, xs, t, l, hp, hl, e⟩ => ⟨y, xs, t, l, hp, hl.mono h, e⟩

theorem ntupleStep_mono {o vid oc c lp fs gs} (h : LeL fs gs) :
    Le (ntupleStep o vid oc c lp fs) (ntupleStep o vid oc c lp gs) :=
  fun _ _ hres => ntupleStep_some.2 <| h.length ▸ (ntupleStep_some.1 hres).imp_right
    fun ⟨y, xs, t, l, hp, hl, e⟩ => ⟨y, xs, t, l, hp, hl.mono h, e⟩

theorem mapStep_mono {o m vid ps aps c fk gk fv gv} (hk : Le fk gk) (hv : Le fv gv) :
    Le (mapStep o m vid ps aps c fk fv) (mapStep o m vid ps aps c gk gv) :=
  fun _ _ hres => mapStep_some.2 <| (mapStep_some.1 hres).imp_right
    fun ⟨y, kvs, t, l, hp, hl, e⟩ => ⟨y, kvs, t, l, hp, hl.mono hk hv, e⟩

theorem recordStep_mono {o m vid cfg fs gs} (h : LeL fs gs) :
    Le (recordStep o m vid cfg fs) (recordStep o m vid cfg gs) :=
  fun _ _ hres => recordStep_some.2 <| (recordStep_some.1 hres).imp_right
    fun ⟨y, data, t, l, hp, hl, e⟩ => ⟨y, data, t, l, hp, hl.mono h, e⟩

theorem unionStep_mono {vid fs gs} (h : LeL fs gs) : Le (unionStep vid fs) (unionStep vid gs) :=
  fun _ _ hres => unionStep_some.2 <| (unionStep_some.1 hres).imp fun _ hq => ⟨hq.1.mono h, hq.2⟩

theorem maybeStep_mono {vid f g} (h : Le f g) : Le (maybeStep vid f) (maybeStep vid g) := by
  intro x r hres
  rcases maybeStep_cases x with ⟨oid, v, rfl⟩ | hx | hx
  · rw [maybeStep_just] at hres ⊢; exact h.map _ hres
  · rw [hx] at hres ⊢; exact hres
  · rw [hx] at hres ⊢; exact hres

theorem knrStep_mono {f g : Ev1} (h : Le f g) : Le (knrStep f) (knrStep g) := by
  intro x r hres
  rw [knrStep_eq] at hres ⊢; exact h.map _ hres

theorem userStep_mono {vid m f g} (h : Le f g) : Le (userStep vid m f) (userStep vid m g) := by
  intro x r hres
  rw [userStep_eq] at hres ⊢; exact h.map _ hres

theorem run_mono (o : Oracle) (env : Nat → V) (m : Mode) :
    ∀ n v x r, run o env m n v x = some r → run o env m (n + 1) v x = some r := by
  intro n
  induction n with
  | zero => intro v x r h; cases h
  | succ n ih =>
    intro v x r h
    have le : ∀ w, Le (run o env m n w) (run o env m (n + 1) w) := ih
    cases v with
    | scalar | equals | noneV | always | isDict => exact h
    | list vid item ps aps c | set vid item ps aps c | utuple vid item ps aps c =>
      exact seqStep_mono (le item) _ _ h
    | ntuple vid fs oc c lp => exact ntupleStep_mono (LeL.map _ _ le fs) _ _ h
    | map vid kv vv ps aps c => exact mapStep_mono (le kv) (le vv) _ _ h
    | record vid cfg vs => exact recordStep_mono (LeL.map _ _ le vs) _ _ h
    | union vid vs => exact unionStep_mono (LeL.map _ _ le vs) _ _ h
    | optional vid nv inner => exact unionStep_mono (.cons (le nv) (.cons (le inner) .nil)) _ _ h
    | maybe vid inner => exact maybeStep_mono (le inner) _ _ h
    | «lazy» vid ref => exact ih _ _ _ h
    | knr vid inner => exact knrStep_mono (le inner) _ _ h
    | user vid inner => exact userStep_mono (le inner) _ _ h

theorem run_mono_le (o : Oracle) (env : Nat → V) (m : Mode) {n k : Nat} (hk : n ≤ k) (v : V)
    (x : PyVal) (r : Out × List Ev) (h : run o env m n v x = some r) : run o env m k v x = some r := by
  induction hk with
  | refl => exact h
  | step _ ih => exact run_mono _ _ _ _ _ _ _ ih

/-- `Run m v x r t`: validation of `x` by `v` terminates with outcome `r` and trace `t` -/
def Run (o : Oracle) (env : Nat → V) (m : Mode) (v : V) (x : PyVal) (r : Out) (t : List Ev) : Prop :=
  ∃ n, run o env m n v x = some (r, t)

/-- `Run` is a partial function: the outcome does not depend on how much fuel was supplied -/
theorem Run.unique {o : Oracle} {env : Nat → V} {m : Mode} {v : V} {x : PyVal} {r r' : Out}
    {t t' : List Ev} (h : Run o env m v x r t) (h' : Run o env m v x r' t') : r = r' ∧ t = t' := by
  obtain ⟨n, hn⟩ := h
  obtain ⟨k, hk⟩ := h'
  have a := run_mono_le o env m (Nat.le_max_left n k) v x _ hn
  have b := run_mono_le o env m (Nat.le_max_right n k) v x _ hk
  rw [a] at b
  simp only [Option.some.injEq, Prod.mk.injEq] at b
  exact b

end Koda
