import KodaModel.Value
import KodaModel.Pred
import KodaModel.Validator
import KodaModel.Eval
import KodaModel.Lemmas.Pre
import KodaModel.Lemmas.Loops
import KodaModel.Lemmas.Raises
import KodaModel.Lemmas.Mono
import KodaModel.Lemmas.Agree
import KodaModel.Lemmas.SrcLoops
import KodaModel.Properties.C05
import KodaModel.Properties.C03
import KodaModel.Properties.C02
import KodaModel.Properties.C04
import KodaModel.Properties.C06
import KodaModel.Cache
import KodaModel.Properties.C20
import KodaModel.Properties.C15
import KodaModel.Properties.C16
import KodaModel.Properties.C18
import KodaModel.Properties.C14
import KodaModel.Render
import KodaModel.Properties.C12
import KodaModel.Sched
import KodaModel.Generated.Effects
import KodaModel.Properties.C13
import KodaModel.Schema
import KodaModel.SchemaEval
import KodaModel.Typehint
import KodaModel.Signature
import KodaModel.Properties.C08
import KodaModel.Properties.C10
import KodaModel.Properties.C11Pat
import KodaModel.Properties.C11
import KodaModel.Properties.C11Containers
import KodaModel.Properties.C01
import KodaModel.Properties.C17
import KodaModel.Properties.C07
import KodaModel.Properties.C11Record
import KodaModel.Properties.C11Nodes
import KodaModel.Properties.C11Glue
import KodaModel.Properties.C06Sync
import KodaModel.Properties.C07Nodes
import KodaModel.Properties.C07Tree
import KodaModel.Rename
import KodaModel.Properties.C19
import KodaModel.Properties.C17Union
import KodaModel.Properties.C17Cont
import KodaModel.Properties.C17Tree
import KodaModel.Properties.C07Tree2
import KodaModel.Properties.C07Dflt
import KodaModel.Properties.C11Rec
import KodaModel.Properties.C10WF
import KodaModel.Properties.C01Term
import KodaModel.PyExpr
import KodaModel.Generated.PredSrc
import KodaModel.Properties.C15Src
import KodaModel.Properties.C18More
import KodaModel.PyCoerce
import KodaModel.Generated.CoerceSrc
import KodaModel.Properties.C16Src
import KodaModel.Properties.C14Tree
import KodaModel.PyImp
import KodaModel.Generated.ScalarSrc
import KodaModel.Properties.C02Src
import KodaModel.PyUnion
import KodaModel.Generated.UnionSrc
import KodaModel.Properties.C05Src
import KodaModel.PyList
import KodaModel.Generated.ListSrc
import KodaModel.Properties.C03Src
import KodaModel.PyWrap
import KodaModel.Generated.WrapSrc
import KodaModel.Properties.C05Wrap
import KodaModel.PyRender
import KodaModel.Generated.RenderSrc
import KodaModel.Properties.C12Src
import KodaModel.PySchemaPred
import KodaModel.Generated.SchemaPredSrc
import KodaModel.Properties.C10Src
import KodaModel.Properties.C11Src
import KodaModel.Generated.PinsSrc
import KodaModel.Properties.GluePins
import KodaModel.Properties.C05Pins
import KodaModel.Properties.C07Pins
import KodaModel.Properties.C07Src
import KodaModel.Properties.C08Pins
import KodaModel.Properties.C10Pins
import KodaModel.PyEq
import KodaModel.Generated.EqSrc
import KodaModel.Properties.C02Eq
import KodaModel.PyCache
import KodaModel.Generated.CacheSrc
import KodaModel.Properties.C20Src
import KodaModel.PySeq
import KodaModel.Generated.SeqSrc
import KodaModel.Properties.C03Seq
import KodaModel.PyNTuple
import KodaModel.Generated.NTupleSrc
import KodaModel.Properties.C03NTuple
import KodaModel.PyMap
import KodaModel.Generated.MapSrc
import KodaModel.Properties.C03Map
import KodaModel.PyDictAny
import KodaModel.Generated.DictAnySrc
import KodaModel.Properties.C04Text
import KodaModel.Properties.C04DictAny
import KodaModel.Properties.C04Record
import KodaModel.Properties.C06Src
import KodaModel.Properties.C04TypedDict
import KodaModel.Properties.C04Class
import KodaModel.Generated.CongrSrc
import KodaModel.Properties.C19Src
